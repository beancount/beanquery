-- Root of the library: every property module (which import the model and the lemmas).
import BqlVerif.Properties.C01
import BqlVerif.Properties.C02
import BqlVerif.Properties.C03
import BqlVerif.Properties.C04
import BqlVerif.Properties.C05
import BqlVerif.Properties.C06
import BqlVerif.Properties.C07
import BqlVerif.Properties.C08
import BqlVerif.Properties.C09
import BqlVerif.Properties.C10
import BqlVerif.Properties.C11
import BqlVerif.Properties.C12
import BqlVerif.Properties.C13
import BqlVerif.Properties.C14
import BqlVerif.Properties.C15
import BqlVerif.Properties.C16
import BqlVerif.Properties.C17
import BqlVerif.Properties.C18
import BqlVerif.Properties.C19
import BqlVerif.Properties.C20
