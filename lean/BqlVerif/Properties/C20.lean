/-
  C20 — Thread isolation: concurrent queries give the same results as serial execution.
-/
import BqlVerif.Proofs.ThreadLemmas
import BqlVerif.Generated.Registry
set_option autoImplicit false
namespace Bql.C20

variable {P : Type}

/-- **Commutation.**  If every step touches only the private state of its own thread, then after
    ANY schedule the state of thread `t` is its own step function iterated as many times as `t`
    was scheduled — it does not depend on how the other threads' steps were interleaved. -/
theorem C20_commute (step : Nat → P → P) (sched : List Nat) (st : Priv P) (t : Nat) :
    runSchedule step st sched t = iter (step t) (sched.count t) (st t) := by
  induction sched generalizing st with
  | nil => rfl
  | cons u us ih =>
    rw [runSchedule, ih]
    by_cases h : u = t
    · subst h
      simp [set_same, iter]
    · simp [set_other (Ne.symm h), h]

/-- hence every interleaving of the same per-thread step counts gives the serial result -/
theorem C20_any_interleaving_is_serial (step : Nat → P → P) (s1 s2 : List Nat) (st : Priv P)
    (h : ∀ t, s1.count t = s2.count t) (t : Nat) :
    runSchedule step st s1 t = runSchedule step st s2 t := by
  rw [C20_commute, C20_commute, h t]

/-- permutations of a schedule are interleavings of it -/
theorem C20_perm_schedule (step : Nat → P → P) (s1 s2 : List Nat) (st : Priv P) (h : s1.Perm s2) (t : Nat) :
    runSchedule step st s1 t = runSchedule step st s2 t :=
  C20_any_interleaving_is_serial step s1 s2 st (fun u => h.count_eq u) t

/-- The repaired balance column keeps its guard in the scan's private row context: evaluating it
    is a step on `ScanState` alone, so `C20_commute` applies to it. -/
def balanceStep (rows : Nat → Nat × (LotKey × Int)) (t : Nat) (st : ScanState) : ScanState :=
  (evalBalance st (rows t).1 (rows t).2).1

theorem C20_private_guard_isolated (rows : Nat → Nat × (LotKey × Int)) (s1 s2 : List Nat) (st : Priv ScanState)
    (h : s1.Perm s2) (t : Nat) :
    runSchedule (balanceStep rows) st s1 t = runSchedule (balanceStep rows) st s2 t :=
  C20_perm_schedule (balanceStep rows) s1 s2 st h t

/-- With the former process-wide one-entry cache the schedule A B A' (thread A evaluates balance,
    thread B evaluates balance, thread A evaluates it again in the same row) makes A count its
    posting twice, while the serial order A A' B does not. -/
theorem C20_shared_cache_violates :
    let p : LotKey × Int := (⟨"USD", none⟩, 100)
    let s0 : SharedSys := {}
    -- interleaved: A, B, A'
    let (s1, _) := sharedStep s0 0 1 p
    let (s2, _) := sharedStep s1 1 1 p
    let (_, vInterleaved) := sharedStep s2 0 1 p
    -- serial: A, A', B
    let (r1, _) := sharedStep s0 0 1 p
    let (_, vSerial) := sharedStep r1 0 1 p
    vInterleaved = [(⟨"USD", none⟩, 200)] ∧ vSerial = [(⟨"USD", none⟩, 100)] := by
  decide

variable {C : Type}

/-- **Benign shared state.**  If the shared state satisfies an invariant under which no step's effect on the private
    state depends on it (memo tables of pure functions, read-only registries), then after ANY schedule every thread
    is where its own private steps alone take it, and the invariant still holds. -/
theorem C20_shared_benign (step : Nat → P → C → P × C) (pstep : Nat → P → P) (I : C → Prop)
    (hpriv : ∀ t p c, I c → (step t p c).1 = pstep t p) (hinv : ∀ t p c, I c → I (step t p c).2)
    (sched : List Nat) (st : Priv P) (c : C) (hc : I c) (t : Nat) :
    (runShared step st c sched).1 t = iter (pstep t) (sched.count t) (st t) ∧ I (runShared step st c sched).2 := by
  obtain ⟨h1, h2⟩ := runShared_benign step pstep I hpriv hinv sched st c hc
  exact ⟨h1 ▸ C20_commute pstep sched st t, h2⟩

/-- hence, with benign shared state, any two interleavings of the same per-thread work agree (and agree with the serial
    order) on every thread's result -/
theorem C20_shared_benign_interleavings (step : Nat → P → C → P × C) (pstep : Nat → P → P) (I : C → Prop)
    (hpriv : ∀ t p c, I c → (step t p c).1 = pstep t p) (hinv : ∀ t p c, I c → I (step t p c).2)
    (s1 s2 : List Nat) (hperm : s1.Perm s2) (st : Priv P) (c : C) (hc : I c) (t : Nat) :
    (runShared step st c s1).1 t = (runShared step st c s2).1 t := by
  rw [(C20_shared_benign step pstep I hpriv hinv s1 st c hc t).1, (C20_shared_benign step pstep I hpriv hinv s2 st c hc t).1,
    hperm.count_eq t]

variable {K V : Type} [DecidableEq K]

/-- **A memo table shared by all threads never changes a result**, whatever its capacity and eviction policy, as long
    as the memoised function is pure: thread `t` in private state `p` asks for `key t p` and continues with
    `next t p (f (key t p))`.  (The process-wide cache of the `balance` column was NOT of this kind: its "function"
    read the scan's private running balance, which is no part of the key — `C20_shared_cache_violates`.) -/
theorem C20_shared_memo_harmless (f : K → V) (evict : List (K × V) → List (K × V)) (hev : ∀ l, ∀ p ∈ evict l, p ∈ l)
    (key : Nat → P → K) (next : Nat → P → V → P)
    (s1 s2 : List Nat) (hperm : s1.Perm s2) (st : Priv P) (t : Nat) :
    (runShared (fun t p c => (next t p (memoStep f evict (key t p) c).1, (memoStep f evict (key t p) c).2)) st [] s1).1 t =
    (runShared (fun t p c => (next t p (memoStep f evict (key t p) c).1, (memoStep f evict (key t p) c).2)) st [] s2).1 t := by
  apply C20_shared_benign_interleavings _ (fun t p => next t p (f (key t p))) (MemoInv f)
  · intro t p c hc
    simp only [memoStep_value f evict (key t p) c hc]
  · intro t p c hc
    exact memoStep_inv f evict hev (key t p) c hc
  · exact hperm
  · intro p hp; cases hp

-- a one-entry memo table of `n ↦ n * n` shared by two threads
example :
    (runShared (fun t (p : Nat) c => (p + (memoStep (fun n => n * n) (fun l => l.take 1) (t + 2) c).1,
                                      (memoStep (fun n => n * n) (fun l => l.take 1) (t + 2) c).2)) (fun _ => 0) [] [0, 1, 0, 1]).1 1
  = (runShared (fun t (p : Nat) c => (p + (memoStep (fun n => n * n) (fun l => l.take 1) (t + 2) c).1,
                                      (memoStep (fun n => n * n) (fun l => l.take 1) (t + 2) c).2)) (fun _ => 0) [] [1, 1, 0, 0]).1 1 := by
  decide

/-- the module advertises DB-API thread safety level 2 (threads may share module and connections) -/
theorem C20_threadsafety_level : Gen.threadsafety = 2 := by decide

example : runSchedule (fun t (x : Nat) => x + t + 1) (fun _ => 0) [0, 1, 0, 1, 1, 0] 1
        = runSchedule (fun t (x : Nat) => x + t + 1) (fun _ => 0) [0, 0, 0, 1, 1, 1] 1 := by decide

end Bql.C20
