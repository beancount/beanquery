/-
  C19 — Shell: settings behave as a typed key-value store; dispatch separates commands and queries.
-/
import BqlVerif.Proofs.ShellLemmas
import BqlVerif.Generated.Columns
set_option autoImplicit false
namespace Bql.C19

/-- **Frame**: a valid `.set NAME VALUE` changes exactly that setting -/
theorem C19_set_frame (st : Settings) (name value : String) (cur v : SVal)
    (hc : st.get? name = some cur) (hp : parseFor name cur value = some v) :
    (doSet st [name, value]).settings.get? name = some v ∧
    (∀ m, m ≠ name → (doSet st [name, value]).settings.get? m = st.get? m) ∧
    (doSet st [name, value]).err = [] ∧ (doSet st [name, value]).out = [] := by
  rw [doSet_valid st name value cur v hc hp]
  exact ⟨by simp [get?_set, hc], fun m hm => by simp [get?_set, hm], rfl, rfl⟩

/-- **Echo**: after a valid set, `.set NAME` prints the value just set -/
theorem C19_set_echo (st : Settings) (name value : String) (cur v : SVal)
    (hc : st.get? name = some cur) (hp : parseFor name cur value = some v) :
    (doSet (doSet st [name, value]).settings [name]).out = [name ++ ": " ++ getstr v] := by
  rw [doSet_valid st name value cur v hc hp]
  simp [doSet, get?_set, hc]

/-- **Rejection** leaves the settings unchanged and reports an error: invalid value … -/
theorem C19_set_reject_value (st : Settings) (name value : String) (cur : SVal)
    (hc : st.get? name = some cur) (hp : parseFor name cur value = none) :
    (doSet st [name, value]).settings = st ∧ (doSet st [name, value]).err ≠ [] ∧ (doSet st [name, value]).out = [] := by
  simp [doSet, hc, hp]

/-- … unknown setting (whatever the arity) … -/
theorem C19_set_reject_unknown (st : Settings) (name : String) (rest : List String) (hc : st.get? name = none) :
    (doSet st (name :: rest)).settings = st ∧
    (doSet st (name :: rest)).err = ["variable \"" ++ name ++ "\" does not exist"] ∧ (doSet st (name :: rest)).out = [] := by
  simp [doSet, hc]

/-- … wrong number of arguments -/
theorem C19_set_reject_arity (st : Settings) (name a b : String) (rest : List String) (cur : SVal) (hc : st.get? name = some cur) :
    (doSet st (name :: a :: b :: rest)).settings = st ∧ (doSet st (name :: a :: b :: rest)).err = ["invalid number of arguments"] := by
  simp [doSet, hc]

/-- `.set` alone prints one line for each setting and changes nothing -/
theorem C19_set_list (st : Settings) :
    (doSet st []).settings = st ∧ (doSet st []).out.length = st.length ∧ (doSet st []).err = [] := by
  simp [doSet]

/-- boolean values: each documented spelling is accepted, also in capitals or between blanks; five other words are not -/
theorem C19_bool_spellings :
    (["1", "true", "t", "yes", "y", "on", " TRUE ", "On"].map parseBool).all (· == some true) = true ∧
    (["0", "false", "f", "no", "n", "off", "FALSE", " Off"].map parseBool).all (· == some false) = true ∧
    (["", "2", "tru", "maybe", "yess"].map parseBool).all (· == none) = true := by
  decide +kernel

/-- `format` accepts the registered `csv` and rejects `html`, which the free-form `nullvalue` accepts -/
theorem C19_format_values :
    parseFor "format" (.s "text") "csv" = some (.s "csv") ∧ parseFor "format" (.s "text") "html" = none ∧
    parseFor "nullvalue" (.s "") "html" = some (.s "html") := by decide +kernel

/-- **a line starting with `.` is never executed as a query** -/
theorem C19_dot_never_query (line : String) (h : (trimChars line.toList).head? = some '.') :
    ∀ q, dispatch line ≠ .query q := by
  intro q
  unfold dispatch
  simp only []
  split
  · simp
  · simp
  · simp
  · -- the default clause: its test for the leading dot succeeds, and that branch returns no query
    simp only [h, beq_self_eq_true, if_true]
    split
    · simp
    · split <;> simp

/-- BQL statements are handed to the executor, not to a `do_` handler: examples with each of the four keywords -/
theorem C19_statements_are_queries :
    dispatch "SELECT date, account WHERE year = 2020" = .query "SELECT date, account WHERE year = 2020" ∧
    dispatch "  select 1;" = .query "select 1;" ∧
    dispatch "BALANCES AT cost FROM year = 2020" = .query "BALANCES AT cost FROM year = 2020" ∧
    dispatch "JOURNAL 'Assets'" = .query "JOURNAL 'Assets'" ∧
    dispatch "PRINT FROM year = 2020" = .query "PRINT FROM year = 2020" := by
  decide +kernel

theorem C19_dot_commands :
    dispatch ".set boxed true" = .command "set" "boxed true" ∧ dispatch ".run" = .command "run" "" ∧
    dispatch ".tables" = .command "tables" "" ∧ dispatch ".frobnicate x" = .command "frobnicate" "x" ∧
    dispatch ".SELECT 1" = .command "SELECT" "1" ∧ dispatch "" = .nothing ∧ dispatch "   " = .nothing ∧
    dispatch "set boxed true" = .command "set" "boxed true" ∧ dispatch "EXIT" = .command "exit" "" := by
  decide +kernel

/-- the first word of a statement decides: no keyword that starts a BQL statement is a legacy command -/
theorem C19_keywords_not_commands :
    (["select", "balances", "journal", "print"].all (fun k => !legacyCommands.contains k)) = true := by decide +kernel

theorem C19_run_default_close (d : Date) (ts : Option (List Target)) (e : Option Expr) (o : Option Date) (cl : Bool)
    (w : Option Expr) (g : List KeyRef) (h : Option Expr) (ob : List (KeyRef × Bool)) (pv : List KeyRef) (lim : Option Nat) (dist : Bool) :
    applyDefaultClose d (.mk ts (.from e o .absent cl) w g h ob pv lim dist) = .mk ts (.from e o (.on d) cl) w g h ob pv lim dist := rfl

/-- a FROM clause that names a CLOSE (with or without a date) is left alone, and so is a statement without FROM -/
theorem C19_run_keeps_explicit_close (d d2 : Date) (ts : Option (List Target)) (e : Option Expr) (o : Option Date) (cl : Bool)
    (w : Option Expr) (g : List KeyRef) (h : Option Expr) (ob : List (KeyRef × Bool)) (pv : List KeyRef) (lim : Option Nat) (dist : Bool) :
    applyDefaultClose d (.mk ts (.from e o (.on d2) cl) w g h ob pv lim dist) = .mk ts (.from e o (.on d2) cl) w g h ob pv lim dist ∧
    applyDefaultClose d (.mk ts (.from e o .flag cl) w g h ob pv lim dist) = .mk ts (.from e o .flag cl) w g h ob pv lim dist ∧
    applyDefaultClose d (.mk ts .none w g h ob pv lim dist) = .mk ts .none w g h ob pv lim dist := ⟨rfl, rfl, rfl⟩

def svalOfGenerated (ty dflt : String) : Option SVal :=
  match ty, dflt with
  | "bool", "True" => some (.b true)
  | "bool", "False" => some (.b false)
  | "str", d => some (.s (String.ofList ((d.toList.drop 1).dropLast)))
  | _, _ => none

/-- names, types and defaults of `Settings` as read from the live class -/
theorem C19_settings_schema :
    Gen.settings.map (fun p => (p.1, svalOfGenerated p.2.1 p.2.2)) = defaultSettings.map (fun p => (p.1, some p.2)) := by
  decide +kernel

end Bql.C19
