/-
  C09 — Parameters, constant folding and history independence of execution.
-/
import BqlVerif.Model.Placeholders
import BqlVerif.Proofs.SubstLemmas
set_option autoImplicit false
namespace Bql.C09

/-- a placeholder compiles to exactly what the literal of its bound value compiles to -/
theorem C09_bind (ctx : Ctx) (tbl : TableDef) (subq : Select → CM SubResult) (name : Option String) (pos h : Nat)
    (v : Value) (hb : bindParam ctx name pos = .ok v) :
    compileExpr ctx tbl subq (.placeholder name pos) h = compileExpr ctx tbl subq (.const v) h := by
  simp [compileExpr, hb]

/-- positional parameters bind in left-to-right textual order: the placeholder whose source
    position is the i-th smallest receives the i-th parameter -/
theorem C09_positional_order (db : List TableDef) (vs : List Value) (positions : List Nat) (i : Nat)
    (hs : positions.Pairwise (· < ·)) (hi : i < positions.length) (hv : i < vs.length) :
    bindParam { db := db, params := .seq vs, positional := positions } none (positions[i]'hi) = .ok (vs[i]'hv) := by
  have hnd : positions.Nodup := hs.imp (fun h => Nat.ne_of_lt h)
  have hidx : positions.idxOf (positions[i]'hi) = i := List.Nodup.idxOf_getElem hnd i hi
  simp [bindParam, hidx, hv]

/-- named parameters bind by name, wherever and however often the placeholder occurs -/
theorem C09_named (db : List TableDef) (kvs : List (String × Value)) (n : String) (v : Value) (pos : Nat)
    (h : kvs.find? (fun p => p.1 == n) = some (n, v)) :
    bindParam { db := db, params := .map kvs, positional := [] } (some n) pos = .ok v := by
  simp [bindParam, h]

/-- the list of source positions is sorted before binding -/
theorem C09_positions_sorted (l : List Nat) : (sortNat l).Pairwise (· ≤ ·) := by
  have := Sort.Sorted.pairwise _ (Sort.sorted_ssort (le := fun a b : Nat => decide (a ≤ b))
    ⟨fun a b => by simp only [decide_eq_true_eq]; omega, fun a b c => by simp only [decide_eq_true_eq]; omega⟩ l)
  rw [← sortNat_eq_ssort] at this
  exact this.imp of_decide_eq_true

/-- a folded node evaluates, on every row and for every aggregate environment, to the value
    the unfolded node has, and announces the same datatype -/
theorem C09_fold (e c : CExpr) (h : foldConst e = .ok c) :
    c.ty = e.ty ∧ ∀ env row, eval env row c = eval [] [] e := by
  obtain ⟨v, hv, rfl⟩ := foldConst_ok h
  exact ⟨rfl, fun _ _ => hv.symm⟩

/-- evaluation of an operator over constants does not depend on the row: folding is sound -/
theorem C09_const_binop_row_independent (op : BinOp) (a b : Value) (ta tb ty : Ty) (env : AggEnv) (row : Row) :
    eval env row (.binop op (.const a ta) (.const b tb) ty) = eval [] [] (.binop op (.const a ta) (.const b tb) ty) :=
  rfl

theorem C09_const_unop_row_independent (op : UnOp) (s : Bool) (a : Value) (ta ty : Ty) (env : AggEnv) (row : Row) :
    eval env row (.unop op s (.const a ta) ty) = eval [] [] (.unop op s (.const a ta) ty) :=
  rfl

/-! ### the whole statement: parameters = literals

`Select.subst ctx` writes the value bound to every placeholder into the statement as a literal (expressions, targets,
GROUP BY / ORDER BY keys, HAVING, FROM expressions, FROM- and IN-subqueries, to any depth). -/

/-- compiling a statement in a parameter context = compiling the statement with the values written in, for every
    statement, current table and nesting depth -/
theorem C09_literals_compile (ctx : Ctx) (fuel : Nat) (tbl : TableDef) (sel : Select) :
    compileSelect ctx fuel tbl (sel.subst ctx) = compileSelect ctx fuel tbl sel :=
  (compileSelect_lit ctx ctx rfl _ (fun _ _ _ => rfl) fuel tbl sel (List.Subset.refl _)).symm

/-- parameters accepted by the validation of `Compiler.compile` bind every placeholder of the statement -/
theorem C09_validated_parameters_bind (db : List TableDef) (params : Params) (sel : Select)
    (hok : checkParams sel.placeholders params = .ok ()) :
    ∀ np ∈ sel.placeholders, bindParam (stmtCtx db params sel) np.1 np.2 ≠ .error (.py "KeyError") ∧
      unbound (stmtCtx db params sel) np = false := by
  intro np hnp
  have h := checkParams_bound db params sel hok np hnp
  refine ⟨fun hcon => ?_, h⟩
  rw [unbound, hcon] at h
  cases h

/-- ... so no placeholder is left in the rewritten statement -/
theorem C09_literals_no_placeholder_left (db : List TableDef) (params : Params) (sel : Select)
    (hok : checkParams sel.placeholders params = .ok ()) :
    (sel.subst (stmtCtx db params sel)).placeholders = [] := by
  rw [Select.placeholders_subst]
  apply List.filter_eq_nil_iff.mpr
  intro np hnp
  simp [checkParams_bound db params sel hok np hnp]

/-- **Executing a statement with placeholders = executing the statement with the parameter values written as
    literals**, executed without parameters: the two compile to the same query (hence the same description and rows),
    for all statements and all parameters that pass the validation. -/
theorem C09_literals_statement (db : List TableDef) (params : Params) (sel : Select)
    (hok : checkParams sel.placeholders params = .ok ()) :
    compileStmt db params sel = compileStmt db .none (sel.subst (stmtCtx db params sel)) := by
  have hc : checkParams (sel.subst (stmtCtx db params sel)).placeholders .none = .ok () := by
    rw [C09_literals_no_placeholder_left db params sel hok]; rfl
  rw [compileStmt_ok hok, compileStmt_ok hc]
  -- every placeholder is bound, so the context of the rewritten statement is never consulted
  -- (both contexts are written out: left to unification, elaboration unfolds `compileSelect` at the fuel literal of
  -- `compileStmt` and runs out of heartbeats)
  exact compileSelect_lit (stmtCtx db params sel) (stmtCtx db .none (sel.subst (stmtCtx db params sel))) rfl _
    (fun np hnp hu => by rw [checkParams_bound db params sel hok np hnp] at hu; cases hu) _ _ sel (List.Subset.refl _)

/-- a statement without placeholders compiles alike in all contexts over the same tables, whatever their parameters -/
theorem C09_no_placeholder_ctx_irrelevant (ctx ctx' : Ctx) (hdb : ctx.db = ctx'.db) (fuel : Nat) (tbl : TableDef)
    (sel : Select) (h : sel.placeholders = []) :
    compileSelect ctx fuel tbl sel = compileSelect ctx' fuel tbl sel := by
  have := compileSelect_lit ctx ctx' hdb [] nofun fuel tbl sel (List.subset_nil.mpr h)
  rwa [Select.subst_closed ctx sel h] at this

/-! non-vacuity: `SELECT i FROM #t WHERE i > %s AND s IN (SELECT s FROM #t WHERE i < %s)` with `(1, 3)`: the second
    placeholder (position 40) is compiled first (subquery), yet receives the second value -/
def demoSel : Select :=
  .mk (some [.mk (.col "i") none "i"]) (.table "t")
    (some (.and [.binop .gt (.col "i") (.placeholder none 26),
                 .binop .in (.col "s") (.sub (.mk (some [.mk (.col "s") none "s"]) (.table "t")
                    (some (.binop .lt (.col "i") (.placeholder none 40))) [] none [] [] none false))]))
    [] none [] [] none false
def demoParams : Params := .seq [.int 1, .int 3]
example : checkParams demoSel.placeholders demoParams = .ok () := by rfl
example : demoSel.subst (stmtCtx [] demoParams demoSel) =
    .mk (some [.mk (.col "i") none "i"]) (.table "t")
      (some (.and [.binop .gt (.col "i") (.const (.int 1)),
                   .binop .in (.col "s") (.sub (.mk (some [.mk (.col "s") none "s"]) (.table "t")
                      (some (.binop .lt (.col "i") (.const (.int 3)))) [] none [] [] none false))]))
      [] none [] [] none false := by rfl

/-- one execution: a function of (tables, parameters, statement) only -/
def execOne (db : List TableDef) (e : Params × Select) : Except Err (List (String × Ty) × List Row) :=
  match compileStmt db e.1 e.2 with
  | .error x => .error x
  | .ok (.query q) => (match execSelect q with | .ok r => .ok r | .error x => .error (.py x))
  | .ok (.pivot _ _ _) => .error (.py "pivot")

/-- The model's execution has no connection-level or statement-level state for an earlier execution to leave
    behind: a history is `execOne` mapped over its entries, so every position holds what a fresh execution returns. -/
theorem C09_history (db : List TableDef) (hist : List (Params × Select)) (i : Nat) (hi : i < hist.length) :
    (hist.map (execOne db))[i]'(by simpa using hi) = execOne db (hist[i]'hi) := by
  simp

/-- The placeholder numbering used to live on the parsed statement.  With two positional
    placeholders the second execution of the same parsed statement was rejected: -/
theorem C09_old_numbering_breaks_reexecution :
    runHistory oldCompileSeq [.unset, .unset] [2, 2] = [true, false] := by decide

/-- with the numbering kept out of the AST every execution of a history is accepted iff the
    fresh execution is: the AST state never changes -/
theorem C09_new_numbering_history_independent (names : List PName) (hist : List Nat) :
    runHistory newCompileSeq names hist = hist.map (fun n => (newCompileSeq names n).2) := by
  induction hist with
  | nil => rfl
  | cons n ns ih =>
    have hst : (newCompileSeq names n).1 = names := by
      unfold newCompileSeq; split <;> rfl
    simp only [runHistory, List.map_cons]
    rw [← ih]
    congr 1
    rw [hst]

example : runHistory newCompileSeq [.unset, .unset] [2, 2, 3] = [true, true, false] := by decide

end Bql.C09
