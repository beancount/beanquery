/-
  C03 — ORDER BY / DISTINCT / LIMIT: stable sorted permutation, NULL first, dedup, cut.
-/
import BqlVerif.Proofs.OrderLemmas
import BqlVerif.Proofs.ExecLemmas
set_option autoImplicit false
namespace Bql.C03
open Bql.Sort

/-- Two stable passes (minor key first, then major key) equal one stable pass by the
    lexicographic order — for arbitrary total preorders. -/
theorem C03_two_pass {α : Type} {le1 le2 : α → α → Bool} (h1 : TotalPre le1) (h2 : TotalPre le2) (l : List α) :
    ssort le1 (ssort le2 l) = ssort (lex le1 le2) l := two_pass h1 h2 l

/-- Comparing `nullitemgetter(i₁..iₙ)` tuples followed by the keys `R` is the lexicographic
    combination of the single-key comparisons, in either direction. -/
theorem C03_tuple_key (d : Bool) (is : List Nat) (R : List (Nat × Bool)) (a b : Row) :
    leOf (lexLt (is.map (fun i => (i, d)) ++ R)) a b = lex (leOf (segLt d is)) (leOf (lexLt R)) a b := by
  rw [segLt_eq_lexLt, leOf_lexLt_append]

/-- **The multi-pass loop** (`groupby(reversed(order_spec))`, one `list.sort` per run of equal
    direction) is one stable sort by the lexicographic comparator of the whole ORDER BY list,
    for every list of keys and every ASC/DESC pattern. -/
theorem C03_multipass (spec : List (Nat × Bool)) (rows : List Row) :
    orderBy spec rows = stableSort (lexLt spec) rows := orderBy_eq spec rows

/-- the comparator is a total preorder, so "sorted" is meaningful -/
theorem C03_comparator_total (spec : List (Nat × Bool)) : TotalPre (leOf (lexLt spec)) := lexLe_totalPre spec

/-- The result is a permutation of the input, … -/
theorem C03_perm (spec : List (Nat × Bool)) (rows : List Row) : (orderBy spec rows).Perm rows := by
  rw [C03_multipass]; exact perm_stableSort _ _

/-- … sorted by the lexicographic comparator (every earlier row ≤ every later row), … -/
theorem C03_sorted (spec : List (Nat × Bool)) (rows : List Row) :
    Sorted (leOf (lexLt spec)) (orderBy spec rows) := by
  rw [C03_multipass]; exact sorted_stableSort (lexLe_totalPre spec) rows

/-- … and stable: rows the keys cannot separate keep their prior relative order. -/
theorem C03_stable (spec : List (Nat × Bool)) (rows : List Row) (p : Row → Bool)
    (hp : ∀ a ∈ rows, ∀ b ∈ rows, p a = true → p b = true → lexLt spec b a = false) :
    (orderBy spec rows).filter p = rows.filter p := by
  rw [C03_multipass, stableSort_eq_ssort]
  apply ssort_stable
  intro a ha b hb pa pb
  simp [leOf, hp a ha b hb pa pb]

/-- NULL is below every key of another class and none is below NULL: a row with a NULL key comes before a row with
    such a key under ASC, and not before it under DESC. -/
theorem C03_null_first (v : Value) (hv : classRank v ≠ 0) : keyLt .null v = true ∧ keyLt v .null = false :=
  have h : keyLt .null v = true := SortKey.lt_of_rank_lt (Nat.pos_of_ne_zero hv)
  ⟨h, keyLt_asymm _ _ h⟩

theorem C03_null_first_asc (i : Nat) (a b : Row) (ha : a.getD i .null = .null) (hb : classRank (b.getD i .null) ≠ 0) :
    lexLt [(i, false)] a b = true ∧ lexLt [(i, true)] a b = false := by
  rw [lexLt_single, lexLt_single, ha]
  exact C03_null_first _ hb

/-! ### DISTINCT and LIMIT -/

/-- DISTINCT keeps a sub-list of the rows (order kept) … -/
theorem C03_distinct_sublist (rows : List Row) : (uniquify rows).Sublist rows := uniquify_sublist rows

/-- … in which no row equals (Python tuple `==`) an earlier kept row … -/
theorem C03_distinct_nodup (rows : List Row) : (uniquify rows).Pairwise (fun a b => keyEq a b = false) := by
  rw [uniquify_eq]; exact Agg.dedup_pairwise _ _

/-- … and every row equals (Python tuple `==`) a kept one: only duplicates are dropped. -/
theorem C03_distinct_covers (rows : List Row) :
    ∀ r ∈ rows, r ∈ uniquify rows ∨ ∃ s ∈ uniquify rows, keyEq s r = true := by
  intro r hr
  rw [uniquify_eq]
  exact Or.inr (Agg.dedup_covers keyEq keyEq_eqv rows r hr)

/-- the first row is always kept -/
theorem C03_distinct_head (r : Row) (rs : List Row) : (uniquify (r :: rs)).head? = some r := by
  simp [uniquify, uniquifyAux]

/-- `take n`, which is what LIMIT n applies (`C03_pipeline`), keeps the first min(n, size) rows. -/
theorem C03_limit (n : Nat) (rows : List Row) :
    (rows.take n).length = min n rows.length ∧ (rows.take n).IsPrefix rows :=
  ⟨List.length_take, List.take_prefix n rows⟩

/-- Order of application: ORDER BY on the full rows (hidden keys included), projection to the
    visible columns, DISTINCT, then LIMIT. -/
theorem C03_pipeline (q : CQuery) (rows : List Row) (spec : List (Nat × Bool)) (n : Nat)
    (hs : q.orderSpec = some spec) (hd : q.distinct = true) (hl : q.limit = some n) :
    finishRows q rows =
      (uniquify ((stableSort (lexLt spec) rows).map (project (resultIndexes q.targets)))).take n := by
  simp [finishRows, projectedRows, orderedRows, hs, hd, hl, C03_multipass]

theorem C03_pipeline_plain (q : CQuery) (rows : List Row)
    (hs : q.orderSpec = none) (hd : q.distinct = false) (hl : q.limit = none) :
    postProcess q rows = .ok (rows.map (project (resultIndexes q.targets))) := by
  simp [postProcess, unsortable, unhashableDistinct, finishRows, projectedRows, orderedRows, hs, hd, hl]

/-- whenever post-processing returns, it returns the pipeline's rows -/
theorem C03_postProcess_ok (q : CQuery) (rows out : List Row) (h : postProcess q rows = .ok out) :
    out = finishRows q rows :=
  postProcess_ok h

/-! ### non-vacuity -/

def exRows : List Row := [[.int 2, .str "b"], [.null, .str "a"], [.int 1, .str "b"], [.int 2, .str "a"]]

/-- ORDER BY 2 DESC, 1 ASC on a table with a NULL and ties: two passes of different direction -/
example : orderBy [(1, true), (0, false)] exRows =
    [[.int 1, .str "b"], [.int 2, .str "b"], [.null, .str "a"], [.int 2, .str "a"]] := by rfl

example : uniquify [[.int 1], [.dec ⟨10, -1⟩], [.int 2]] = [[.int 1], [.int 2]] := by rfl

end Bql.C03
