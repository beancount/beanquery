/-
  C06 — Parsing inverts printing (precedence, associativity, literals); parser = grammar.

  `LStmt` (Model/Layered.lean) is the type of statements *as written*: one constructor per grammar
  alternative, explicit parentheses, optional unary plus, empty / NULL list items, explicit ASC.
  `printStmt` gives the token sequence, `embedStmt` the abstract syntax tree (the meaning, which
  forgets how the statement was parenthesised).  The theorem: for every well-formed written
  statement the parser model returns exactly its abstract syntax tree.  Minimal and redundant
  parenthesisation, every parent x child x operand position and every depth are instances.

  The tie to the shipped TatSu parser is the correspondence check (harness/props/c06.py); the
  character level (letter case, white space, comments, literal spellings) is covered there and by
  the scanner model Model/Lexer.lean, see DESIGN.md.
-/
import BqlVerif.Proofs.ParserRT2
import BqlVerif.Proofs.LexerRT
import BqlVerif.Generated.Registry
set_option autoImplicit false
namespace Bql.C06
open Bql.Syn

/-- the reserved words of the model and `Gen.keywords` in lower case have the same members; `Gen.keywords` is the
    `KEYWORDS` set of the shipped generated parser (harness/gen_tables.py), which TatSu writes from `@@keyword` -/
theorem C06_keywords :
    (Gen.keywords.map (fun k => k.toList.map lowerChar)).all (fun k => (Syn.keywords.map String.toList).contains k) = true ∧
    (Syn.keywords.map String.toList).all (fun k => (Gen.keywords.map (fun k => k.toList.map lowerChar)).contains k) = true := by
  decide +kernel

/-- **Round trip, expressions**: for every well-formed written expression `e` (any parenthesisation) followed by
    nothing or by a token that cannot continue an expression, the parser returns the tree of `e` and stops there,
    for every large enough fuel. -/
theorem C06_roundtrip_expr (e : LExpr) (h : wfExpr e) (rest : List Tok) (hr : Follow 5 rest) :
    ∃ n, ∀ m, n ≤ m → parseExpr m (printExpr e ++ rest) = some (embedExpr e, rest) :=
  rt_expr e h rest hr

/-- **Round trip, SELECT**, also when nested: followed by a closing parenthesis or by nothing, a well-formed written
    SELECT is read back as its tree, for every large enough fuel. -/
theorem C06_roundtrip_select (s : LSelect) (h : wfSelect s) (rest : List Tok) (hr : CFollow 7 rest) :
    ∃ n, ∀ m, n ≤ m → parseSelect m (printSelect s ++ rest) = some (embedSelect s, rest) :=
  rt_select s h rest hr

/-- **Round trip, statements**: a well-formed written SELECT, BALANCES, JOURNAL or PRINT, with any combination of
    clauses that the grammar allows, is read back as its tree, for every large enough fuel. -/
theorem C06_roundtrip (l : LStmt) (h : wfStmt l) :
    ∃ n, ∀ m, n ≤ m → parseStmt m (printStmt l) = some (embedStmt l) :=
  rt_stmt l h

/-- **Scanner round trip.**  Written tokens — words in ANY letter case (read back in lower case), integers with leading
    zeros, decimals `d.d`, `d.`, `.d`, dates, strings in either quote, table names, every symbol, `%s` / `%(name)s` in either
    case — each followed by one blank, are read back as exactly their tokens.  (`PhCtx`: a placeholder is written where an
    operand may start; after an operand `%` is the modulo operator, as in the grammar.) -/
theorem C06_lex (ws : List WTok) (hok : ∀ w ∈ ws, w.ok) (hph : PhCtx none ws) :
    lex (renderW ws) = some (ws.flatMap WTok.toks) :=
  lex_render ws hok hph

/-- text to tree: if the written tokens are those of a well-formed written statement, scanning gives its tokens and
    parsing them gives its tree -/
theorem C06_text_roundtrip (ws : List WTok) (l : LStmt) (hok : ∀ w ∈ ws, w.ok) (hph : PhCtx none ws) (hl : wfStmt l)
    (htoks : ws.flatMap WTok.toks = printStmt l) :
    lex (renderW ws) = some (printStmt l) ∧ ∃ n, ∀ m, n ≤ m → parseStmt m (printStmt l) = some (embedStmt l) :=
  ⟨by rw [← htoks]; exact lex_render ws hok hph, C06_roundtrip l hl⟩

/-- every natural number has a decimal text that reads back as it -/
theorem C06_lit_int (n : Nat) : lex (renderW [.int (digitsOf n)]) = some [.int n] := by
  have hs := digitsOf_spec n
  simpa [WTok.toks, hs.1] using lex_render [.int (digitsOf n)] (by simp [hs.2]) ⟨by simp [WTok.isPh], trivial⟩

/-- a word in any letter case is read back in lower case -/
example : lex (renderW [.word "SeLeCt".toList, .word "Foo_1".toList, .sym .le, .dec "007".toList "50".toList, .str '"' "it's".toList,
      .date '2' '0' '2' '0' '0' '2' '2' '9', .sym .percent, .int "12".toList, .sym .comma, .phNamed "P".toList 'S']) =
    some [.word "select", .word "foo_1", .sym .le, .dec 750 (-2) true, .str "it's", .date 2020 2 29, .sym .percent, .int 12, .sym .comma,
      .phOpen, .word "p", .phClose] := by
  decide +kernel

def colF (n : String) : LFactor := .prim (.atom (.col n))
def colT (n : String) : LTerm := .factor (colF n)
def colS (n : String) : LSum := .term (colT n)
def colI (n : String) : LInv := .cmp (.sum (colS n))

/-- `a OR b AND c` is `a OR (b AND c)`: AND binds tighter than OR -/
example : embedExpr (.mk (.mk (colI "a") []) [.mk (colI "b") [colI "c"]]) =
    .or [.col "a", .and [.col "b", .col "c"]] := rfl

/-- `a - b - c` is `(a - b) - c`: left associative -/
example : embedSum (.bin .sub (.bin .sub (colS "a") (colT "b")) (colT "c")) =
    .binop .sub (.binop .sub (.col "a") (.col "b")) (.col "c") := rfl

/-- `a + b * c` is `a + (b * c)`; `-a * b` is `(-a) * b` -/
example : embedSum (.bin .add (colS "a") (.bin .mul (colT "b") (colF "c"))) =
    .binop .add (.col "a") (.binop .mul (.col "b") (.col "c")) := rfl
example : embedTerm (.bin .mul (.factor (.neg (colF "a"))) (colF "b")) =
    .binop .mul (.unop .neg (.col "a")) (.col "b") := rfl

/-- the parser on concrete tokens: `a or b and not c < d + e * - f . g` -/
example : parseExpr 64 [.word "a", .word "or", .word "b", .word "and", .word "not", .word "c", .sym .lt, .word "d", .sym .plus,
      .word "e", .sym .star, .sym .minus, .word "f", .sym .dot, .word "g"] =
    some (.or [.col "a", .and [.col "b", .unop .not (.binop .lt (.col "c")
      (.binop .add (.col "d") (.binop .mul (.col "e") (.unop .neg (.attr (.col "f") "g")))))]], []) := by
  rfl

/-- comparisons do not associate: `a < b < c` is rejected, `(a < b) < c` is accepted -/
example : (parseStmt 64 [.word "select", .word "a", .sym .lt, .word "b", .sym .lt, .word "c"]).isSome = false := by decide +kernel
example : (parseStmt 64 [.word "select", .sym .lparen, .word "a", .sym .lt, .word "b", .sym .rparen, .sym .lt, .word "c"]).isSome = true := by
  decide +kernel

/-- non-vacuity of the hypotheses: a written statement with every clause is well formed -/
example : wfStmt (.select (.mk true (some [.mk (.mk (.mk (colI "a") []) []) (some "x")]) (.table "t")
    (some (.mk (.mk (colI "b") []) [])) [.idx 1] (some (.mk (.mk (colI "c") []) [])) [.mk (.idx 1) true false] (some (.idx 1, .col "k")) (some 5))) := by
  simp [wfStmt, wfSelect, wfTargets, wfExpr, wfConj, wfConjs, wfInvs, wfInv, wfCmp, wfSum, wfTerm, wfFactor, wfPrim, wfAtom, wfFrom,
    wfKeys, wfKey, wfOrders, colI, colS, colT, colF, colOK, identOK, optIdentOK, isKeyword, keywords, PKey.ok]

end Bql.C06
