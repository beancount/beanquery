/-
  C01 — Row-level evaluation: WHERE filtering, expression values and NULL semantics.
-/
import BqlVerif.Proofs.EvalLemmas
import BqlVerif.Model.Compile
set_option autoImplicit false
namespace Bql.C01

/-- The row loop of a non-aggregate SELECT (a fold that appends) is "map every row to
    excluded / its target values, stop at the first raised exception, keep the included ones". -/
theorem C01_rows (q : CQuery) :
    selectNonAgg q =
      (match mapE (specRow q.where_ (q.targets.map (·.expr))) q.table with
       | .error x => .error x
       | .ok rs => .ok (rs.filterMap id)) :=
  selectNonAgg_eq q

/-- When no evaluation raises: exactly one output row per source row whose condition is true,
    in source order, each cell a function of that row alone. -/
theorem C01_rows_ok (q : CQuery) (wh : Row → Bool) (tg : Row → Row)
    (hw : ∀ r ∈ q.table, whereTrue q.where_ r = .ok (wh r))
    (ht : ∀ r ∈ q.table, wh r = true → evalTargets [] r (q.targets.map (·.expr)) = .ok (tg r)) :
    selectNonAgg q = .ok ((q.table.filter wh).map tg) :=
  selectNonAgg_filter_map q wh tg hw ht

theorem C01_count (q : CQuery) (wh : Row → Bool) (tg : Row → Row)
    (hw : ∀ r ∈ q.table, whereTrue q.where_ r = .ok (wh r))
    (ht : ∀ r ∈ q.table, wh r = true → evalTargets [] r (q.targets.map (·.expr)) = .ok (tg r)) :
    ∃ rows, selectNonAgg q = .ok rows ∧ rows.length = q.table.countP wh := by
  refine ⟨_, C01_rows_ok q wh tg hw ht, ?_⟩
  simp [List.countP_eq_length_filter]

/-- no source rows, no result rows -/
theorem C01_empty (q : CQuery) (h : q.table = []) : selectNonAgg q = .ok [] := by
  simp [selectNonAgg, h, foldlE]

/-- NULL and FALSE both exclude the row, TRUE includes it -/
theorem C01_where_null_excludes (w : CExpr) (r : Row) (h : eval [] r w = .ok .null) :
    whereTrue (some w) r = .ok false := by
  simp [whereTrue, h, Value.truthy]

theorem C01_where_false_excludes (w : CExpr) (r : Row) (h : eval [] r w = .ok (.bool false)) :
    whereTrue (some w) r = .ok false := by
  simp [whereTrue, h, Value.truthy]

theorem C01_where_true_includes (w : CExpr) (r : Row) (h : eval [] r w = .ok (.bool true)) :
    whereTrue (some w) r = .ok true := by
  simp [whereTrue, h, Value.truthy]

/-- FROM-expression AND WHERE: the row qualifies iff both conditions are truthy -/
theorem C01_from_and_where (f w : CExpr) (r : Row) (a b : Value)
    (hf : eval [] r f = .ok a) (hw : eval [] r w = .ok b) :
    whereTrue (andWhere (some f) (some w)) r = .ok (a.truthy && b.truthy) := by
  have hnull : ∀ v : Value, v.isNull = true → v.truthy = false :=
    fun v hv => Value.eq_null_of_isNull hv ▸ rfl
  simp only [andWhere, whereTrue, eval, evalAnd, hf, hw]
  -- AND answers NULL at a NULL operand, and NULL is not truthy either
  cases ha : a.isNull
  · cases hat : a.truthy
    · rfl
    · cases hb : b.isNull
      · cases hbt : b.truthy <;> rfl
      · rw [hnull b hb]; rfl
  · rw [hnull a ha]; rfl

/-! ### NULL strictness of operator and function nodes -/

theorem C01_strict_binop_left (env : AggEnv) (row : Row) (op : BinOp) (l r : CExpr) (ty : Ty)
    (h : eval env row l = .ok .null) : eval env row (.binop op l r ty) = .ok .null := by
  simp [eval, h, Value.isNull]

theorem C01_strict_binop_right (env : AggEnv) (row : Row) (op : BinOp) (l r : CExpr) (ty : Ty) (a : Value)
    (hl : eval env row l = .ok a) (h : eval env row r = .ok .null) :
    eval env row (.binop op l r ty) = .ok .null := by
  rw [eval_binop_ok op ty hl h]; simp [Value.isNull]

theorem C01_strict_between (env : AggEnv) (row : Row) (e lo hi : CExpr) (a b c : Value)
    (he : eval env row e = .ok a) (hlo : eval env row lo = .ok b) (hhi : eval env row hi = .ok c)
    (h : a = .null ∨ b = .null ∨ c = .null) :
    eval env row (.between e lo hi) = .ok .null := by
  rw [eval_between_ok he hlo hhi]; rcases h with rfl | rfl | rfl <;> simp [Value.isNull]

theorem C01_strict_unop_safe (env : AggEnv) (row : Row) (op : UnOp) (e : CExpr) (ty : Ty)
    (h : eval env row e = .ok .null) : eval env row (.unop op true e ty) = .ok .null := by
  rw [eval_unop_ok op true ty h]; rfl

theorem C01_strict_func (env : AggEnv) (row : Row) (name : String) (args : List CExpr) (ty : Ty)
    (vs : List Value) (hargs : evalArgs env row args = .ok vs) (h : .null ∈ vs) :
    eval env row (.func name args ty) = .ok .null := by
  simp only [eval, hargs]
  have : vs.any Value.isNull = true := List.any_eq_true.mpr ⟨.null, h, rfl⟩
  simp [this]

/-! ### division and modulo by zero -/

theorem C01_div_zero_int (a : Int) : semBin .div (.int a) (.int 0) = .ok .null := by
  rw [semBin_div]; simp [numBin]

theorem C01_mod_zero_int (a : Int) : semBin .mod (.int a) (.int 0) = .ok .null := by
  rw [semBin_mod]; simp [numBin]

theorem C01_div_zero_dec (x : Value) (a z : Dec) (hx : x.num? = some a) (hz : z.coef = 0)
    (hnotint : ∀ i, x ≠ .int i) :
    semBin .div x (.dec z) = .ok .null := by
  rw [semBin_div, numBin_zero_dec (.inl rfl) hx hz]

theorem C01_mod_zero_dec (x : Value) (a z : Dec) (hx : x.num? = some a) (hz : z.coef = 0)
    (hnotint : ∀ i, x ≠ .int i) :
    semBin .mod x (.dec z) = .ok .null := by
  rw [semBin_mod, numBin_zero_dec (.inr rfl) hx hz]

theorem C01_div_dec_by_int_zero (a : Dec) : semBin .div (.dec a) (.int 0) = .ok .null := by
  rw [semBin_div]; simp [numBin, Value.num?, Dec.isZero, Dec.ofInt]

theorem C01_mod_dec_by_int_zero (a : Dec) : semBin .mod (.dec a) (.int 0) = .ok .null := by
  rw [semBin_mod]; simp [numBin, Value.num?, Dec.isZero, Dec.ofInt]

/-- int / int is a decimal whenever it is not NULL -/
theorem C01_int_div_is_decimal (a b : Int) (hb : b ≠ 0) :
    semBin .div (.int a) (.int b) = .ok (.dec (Dec.div (Dec.ofInt a) (Dec.ofInt b))) := by
  rw [semBin_div]; simp [numBin, hb]

/-! ### three-valued AND / OR / NOT / IS NULL / COALESCE -/

/-- AND over already evaluated operands: the value at the first NULL (NULL) or falsy (FALSE)
    operand, TRUE if there is none; a raised exception before that point propagates. -/
def andSpec : List PyResult → PyResult
  | [] => .ok (.bool true)
  | .error x :: _ => .error x
  | .ok v :: rest => if v.isNull then .ok .null else if !v.truthy then .ok (.bool false) else andSpec rest

/-- OR: TRUE at the first truthy operand; otherwise NULL if any operand was NULL, else FALSE. -/
def orSpec (r : Value) : List PyResult → PyResult
  | [] => .ok r
  | .error x :: _ => .error x
  | .ok v :: rest => if v.truthy then .ok (.bool true) else orSpec (if v.isNull then .null else r) rest

def coalesceSpec : List PyResult → PyResult
  | [] => .ok .null
  | .error x :: _ => .error x
  | .ok v :: rest => if v.isNull then coalesceSpec rest else .ok v

theorem C01_and (env : AggEnv) (row : Row) (es : List CExpr) :
    eval env row (.and es) = andSpec (es.map (eval env row)) := by
  simp only [eval]
  induction es with
  | nil => rfl
  | cons e es ih => cases h : eval env row e <;> simp only [evalAnd, andSpec, List.map_cons, h, ih]

theorem C01_or (env : AggEnv) (row : Row) (es : List CExpr) :
    eval env row (.or es) = orSpec (.bool false) (es.map (eval env row)) := by
  simp only [eval]
  generalize Value.bool false = r
  induction es generalizing r with
  | nil => rfl
  | cons e es ih => cases h : eval env row e <;> simp only [evalOr, orSpec, List.map_cons, h, ih]

/-- closed form of OR on successfully evaluated operands:
    TRUE if any operand is true, else NULL if any is NULL, else FALSE -/
theorem C01_or_truth_table (vs : List Value) :
    orSpec (.bool false) (vs.map .ok) =
      .ok (if vs.any Value.truthy then .bool true else if vs.any Value.isNull then .null else .bool false) := by
  generalize Value.bool false = r
  induction vs generalizing r with
  | nil => rfl
  | cons v vs ih =>
    simp only [List.map_cons, orSpec, ih, List.any_cons]
    by_cases ht : v.truthy = true <;> by_cases hn : v.isNull = true <;> simp [ht, hn]

theorem C01_not_null (env : AggEnv) (row : Row) (e : CExpr) (ty : Ty) (h : eval env row e = .ok .null) :
    eval env row (.unop .not false e ty) = .ok (.bool true) := by
  rw [eval_unop_ok .not false ty h]; rfl

theorem C01_not (env : AggEnv) (row : Row) (e : CExpr) (ty : Ty) (v : Value) (h : eval env row e = .ok v) :
    eval env row (.unop .not false e ty) = .ok (.bool (!v.truthy)) := by
  rw [eval_unop_ok .not false ty h]; rfl

theorem C01_isnull (env : AggEnv) (row : Row) (e : CExpr) (ty : Ty) (v : Value) (h : eval env row e = .ok v) :
    eval env row (.unop .isnull false e ty) = .ok (.bool v.isNull) := by
  rw [eval_unop_ok .isnull false ty h]; rfl

theorem C01_isnotnull (env : AggEnv) (row : Row) (e : CExpr) (ty : Ty) (v : Value) (h : eval env row e = .ok v) :
    eval env row (.unop .isnotnull false e ty) = .ok (.bool (!v.isNull)) := by
  rw [eval_unop_ok .isnotnull false ty h]; rfl

theorem C01_coalesce (env : AggEnv) (row : Row) (es : List CExpr) (ty : Ty) :
    eval env row (.coalesce es ty) = coalesceSpec (es.map (eval env row)) := by
  simp only [eval]
  induction es with
  | nil => rfl
  | cons e es ih => cases h : eval env row e <;> simp only [evalCoalesce, coalesceSpec, List.map_cons, h, ih]

/-! ### int/decimal promotion: declared (generated registry) and computed -/

def arithOps : List String := ["Add", "Sub", "Mul", "Div", "Mod"]

/-- expected declared result type of an arithmetic overload on int/decimal operands -/
def promoted (op : String) (a b : Ty) : Ty :=
  if a == .int && b == .int && op != "Div" then .int else .dec

/-- Every arithmetic overload over {int, Decimal}² exists in the *generated* registry and declares
    the promoted type: mixes and int/int division are decimal, int%int and int±×int are int. -/
theorem C01_promotion_declared :
    (arithOps.all fun op => [Ty.int, Ty.dec].all fun a => [Ty.int, Ty.dec].all fun b =>
      (lookupExact Gen.operators op [a, b]).map (fun d => d.outTy [a, b]) == some (promoted op a b)) = true := by
  decide +kernel

/-- `+`, `-` and `*` compute a decimal on every int/decimal mix -/
theorem C01_promotion_sem (op : BinOp) (hop : op = .add ∨ op = .sub ∨ op = .mul) (i : Int) (d : Dec) :
    (∃ r, semBin op (.int i) (.dec d) = .ok (.dec r)) ∧ (∃ r, semBin op (.dec d) (.int i) = .ok (.dec r)) := by
  rcases hop with h | h | h <;> subst h <;> simp [semBin, numBin, Value.num?]

/-! ### non-vacuity: a three-row table whose WHERE is TRUE, FALSE and NULL once each -/

def exTable : List Row := [[.int 1], [.int 0], [.null]]
def exQuery : CQuery :=
  { table := exTable, targets := [⟨.col 0 "i" .int, some "i", false⟩],
    where_ := some (.binop .gt (.col 0 "i" .int) (.const (.int 0) .int) .bool),
    groupIdx := none, havingIdx := none, orderSpec := none, limit := none, distinct := false }

example : selectNonAgg exQuery = .ok [[.int 1]] := by rfl
example : exTable.map (whereTrue exQuery.where_) = [.ok true, .ok false, .ok false] := by rfl

end Bql.C01
