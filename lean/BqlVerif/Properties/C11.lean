/-
  C11 — Ledger tables present the Beancount directives faithfully and completely (row structure;
  the column values are compared with a direct traversal by the correspondence harness).
-/
import BqlVerif.Proofs.LedgerLemmas
import BqlVerif.Generated.Columns
set_option autoImplicit false
namespace Bql.C11

/-- number of postings of the ledger's transactions -/
def postingCount (l : Ledger) : Nat :=
  (l.map (fun d => if d.kind = .transaction then d.postings.length else 0)).sum

/-- **as many rows as the transactions have postings**, … -/
theorem C11_postings_count (l : Ledger) : (postingsRows l).length = postingCount l := by
  unfold postingsRows
  generalize 0 = i
  induction l generalizing i with
  | nil => rfl
  | cons d rest ih =>
    simp only [postingsRowsFrom, List.length_append, ih, postingCount, List.map_cons, List.sum_cons]
    split <;> simp

/-- … namely the (entry, posting) pairs of the transactions, … -/
theorem C11_postings_rows (l : Ledger) (e j : Nat) :
    (e, j) ∈ postingsRows l ↔ ∃ d, l[e]? = some d ∧ d.kind = .transaction ∧ j < d.postings.length := by
  simp only [postingsRows, postingsRowsFrom_eq, List.mem_flatMap, Prod.exists, List.mk_mem_zipIdx_iff_getElem?,
    List.mem_ite_nil_right, List.mem_map, List.mem_range, Prod.mk.injEq]
  exact ⟨fun ⟨d, i, hd, hk, a, ha, he, haj⟩ => ⟨d, he ▸ hd, hk, haj ▸ ha⟩,
    fun ⟨d, hd, hk, hj⟩ => ⟨d, e, hd, hk, j, hj, rfl, rfl⟩⟩

/-- (entry index, posting index) pairs in strict lexicographic order -/
def rowLe (a b : Nat × Nat) : Prop := a.1 < b.1 ∨ (a.1 = b.1 ∧ a.2 < b.2)

/-- … each once and in ledger order: entry indexes never decrease, posting indexes increase within an entry -/
theorem C11_postings_order (l : Ledger) : (postingsRows l).Pairwise rowLe := by
  rw [postingsRows, postingsRowsFrom_eq, List.pairwise_flatMap]
  constructor
  · -- inside a transaction the posting index increases
    intro p _
    split
    · exact List.pairwise_map.mpr (List.pairwise_lt_range.imp fun h => Or.inr ⟨rfl, h⟩)
    · exact List.Pairwise.nil
  · -- across directives the entry index does: every row of a directive carries its number
    have : (l.zipIdx 0).Pairwise (fun p q => p.2 < q.2) := by
      rw [← List.pairwise_map (f := Prod.snd) (R := (· < ·)), List.zipIdx_map_snd]
      exact List.pairwise_lt_range'
    refine this.imp fun {p q} hpq x hx y hy => Or.inl ?_
    simp only [List.mem_ite_nil_right, List.mem_map] at hx hy
    obtain ⟨_, _, _, rfl⟩ := hx
    obtain ⟨_, _, _, rfl⟩ := hy
    exact hpq

/-- typed tables: exactly the directives of the table's kind -/
theorem C11_typed_rows (k : DirKind) (l : Ledger) (e : Nat) :
    e ∈ typedRows k l ↔ ∃ d, l[e]? = some d ∧ d.kind = k := by
  simp only [typedRows, typedRowsFrom_eq, List.mem_flatMap, Prod.exists, List.mk_mem_zipIdx_iff_getElem?,
    List.mem_ite_nil_right, List.mem_singleton]
  exact ⟨fun ⟨d, i, hd, hk, he⟩ => ⟨d, he ▸ hd, hk⟩, fun ⟨d, hd, hk⟩ => ⟨d, e, hd, hk, rfl⟩⟩

theorem C11_entries_rows (l : Ledger) : entriesRows l = List.range l.length := rfl

/-! ### other_accounts -/

/-- **other_accounts** holds exactly the accounts of the sibling postings: every posting of the
    transaction other than this one (by position, so a sibling with the same account still counts) -/
theorem C11_other_accounts (accounts : List String) (k : Nat) (a : String) :
    a ∈ otherAccounts accounts k ↔ ∃ j, j ≠ k ∧ accounts[j]? = some a := by
  simp only [otherAccounts, mem_foldr_insertSorted, List.mem_map, List.mem_filter, Prod.exists,
    List.mk_mem_zipIdx_iff_getElem?, bne_iff_ne, ne_eq]
  exact ⟨fun ⟨a', j, ⟨hj, hne⟩, e⟩ => ⟨j, hne, e ▸ hj⟩, fun ⟨j, hne, hj⟩ => ⟨a, j, ⟨hj, hne⟩, rfl⟩⟩

/-! ### metadata lookups -/

theorem C11_meta_missing_key (d : List (String × Value)) (key : String) (h : ∀ p ∈ d, p.1 ≠ key) :
    metaLookup (some d) key = .null := by
  simp only [metaLookup, dictGet]
  have : d.find? (fun p => p.1 == key) = none := by
    rw [List.find?_eq_none]; intro p hp; simpa using h p hp
  rw [this]

theorem C11_meta_no_dict (key : String) : metaLookup none key = .null ∧ ∀ e, anyMeta none e key = .null :=
  ⟨rfl, fun _ => rfl⟩

/-- `any_meta`: the posting's value when the posting has the key, else the transaction's -/
theorem C11_any_meta (d : List (String × Value)) (entry : Meta) (key : String) :
    anyMeta (some d) entry key =
      match d.find? (fun p => p.1 == key) with
      | some p => p.2
      | none => metaLookup entry key := rfl

/-! ### the generated column declarations are the modelled ones -/

def expectedPostings : List (String × Ty) :=
  [("id", .str), ("type", .str), ("filename", .str), ("lineno", .int), ("date", .date), ("year", .int), ("month", .int),
   ("day", .int), ("flag", .str), ("payee", .str), ("narration", .str), ("description", .str), ("tags", .set), ("links", .set),
   ("meta", .dict), ("location", .str), ("posting_flag", .str), ("account", .str), ("other_accounts", .set), ("number", .dec),
   ("currency", .str), ("cost_number", .dec), ("cost_currency", .str), ("cost_date", .date), ("cost_label", .str),
   ("position", .position), ("price", .amount), ("weight", .amount), ("balance", .inventory), ("entry", .other "Transaction")]

def expectedEntries : List (String × Ty) := expectedPostings.take 15

def declared (table : String) : List (String × Ty) :=
  match Gen.tableColumns.find? (fun t => t.1 == table) with
  | some t => t.2.map (fun c => (c.1, c.2.1))
  | none => []

/-- every column the property names exists with the expected datatype, in declaration order -/
theorem C11_columns_declared :
    declared "postings" = expectedPostings ∧ declared "entries" = expectedEntries ∧
    (["transactions", "prices", "balances", "notes", "events", "documents", "accounts", "commodities"].all
      (fun t => !(declared t).isEmpty)) = true ∧
    Gen.columnCollisions = [] := by
  decide +kernel

/-- wildcard of the postings table -/
theorem C11_postings_wildcard :
    (Gen.wildcards.find? (fun w => w.1 == "postings")).map (·.2) = some ["date", "flag", "payee", "narration", "position"] := by
  decide +kernel

/-! ### non-vacuity -/
def exLedger : Ledger :=
  [⟨.open_, []⟩, ⟨.transaction, ["Assets:A", "Expenses:B", "Assets:A"]⟩, ⟨.price, []⟩, ⟨.transaction, ["Income:X", "Assets:A"]⟩]

example : postingsRows exLedger = [(1, 0), (1, 1), (1, 2), (3, 0), (3, 1)] := by decide
example : otherAccounts ["Assets:A", "Expenses:B", "Assets:A"] 0 = ["Assets:A", "Expenses:B"] := by decide
example : typedRows .transaction exLedger = [1, 3] := by decide

end Bql.C11
