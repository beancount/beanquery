/-
  C05 — Static validation is complete; rejections are ParseError / CompilationError only.
  Rule-by-rule characterisations of the validation stages of the compile model.
-/
import BqlVerif.Proofs.CompileLemmas
set_option autoImplicit false
namespace Bql.C05

/-- a Python exception that is neither CompilationError nor ProgrammingError (`Err.py`) -/
def Err.isPy : Err → Bool
  | .py _ => true
  | _ => false

/-- a target passes iff it does not mix aggregates with bare columns and holds no aggregate of an aggregate -/
theorem C05_target_rule (ce : CExpr) :
    checkTarget ce = .ok () ↔
      ¬ (ce.cols ≠ [] ∧ ce.aggs ≠ []) ∧ ¬ (∃ a ∈ ce.aggs, ∃ c ∈ a.children, c.isAggregate = true) := by
  -- the two conditions are the two tests of `checkTarget`, which succeeds when both fail
  have h1 : (ce.cols ≠ [] ∧ ce.aggs ≠ []) ↔ (!ce.cols.isEmpty && !ce.aggs.isEmpty) = true := by
    simp only [Bool.and_eq_true, Bool.not_eq_true', List.isEmpty_eq_false_iff]
  have h2 : (∃ a ∈ ce.aggs, ∃ c ∈ a.children, c.isAggregate = true) ↔
      (ce.aggs.any fun a => a.children.any CExpr.isAggregate) = true := by
    simp only [List.any_eq_true]
  rw [h1, h2]
  unfold checkTarget
  split
  · rename_i h; simp [h]
  · rename_i h
    split <;> rename_i h' <;> simp [h, h']

/-- the target checks never fail with a bare Python exception (`Err.py`) -/
theorem C05_target_no_py (ce : CExpr) (e : Err) (h : checkTarget ce = .error e) : Err.isPy e = false := by
  unfold checkTarget at h
  split at h
  · cases h; rfl
  · split at h <;> cases h
    rfl

/-- a rejected BETWEEN is no bare Python exception (for the unary operators see `C05_unop_err`: unless constant folding
    itself raised) -/
theorem C05_between_no_py (e lo hi : CExpr) (x : Err) (h : compileBetween e lo hi = .error x) : Err.isPy x = false := by
  unfold compileBetween at h
  split at h <;> cases h
  rfl

/-- `_unaryop`: a failure with a bare Python exception happens only on a constant operand, and the exception is what
    evaluating some node without a row raises (in `compileUnop` the node being folded; the statement leaves it unnamed) -/
theorem C05_unop_err (op : UnOp) (e : CExpr) (x : Err) (h : compileUnop op e = .error x) :
    Err.isPy x = false ∨ (e.isConst = true ∧ ∃ node s, x = .py s ∧ eval [] [] node = .error s) := by
  unfold compileUnop at h
  split at h
  · cases h; exact .inl rfl
  · split at h
    · exact .inr ⟨‹_›, _, foldConst_err h⟩
    · cases h

/-- mixing positional and named placeholders is always a ProgrammingError -/
theorem C05_params_mixed (phs : List (Option String × Nat)) (params : Params)
    (hn : ∃ p ∈ phs, p.1.isSome = true) (hp : ∃ p ∈ phs, p.1.isSome = false) :
    checkParams phs params = .error (.programming "positional and named parameters cannot be mixed") := by
  obtain ⟨p, hpm, hps⟩ := hn
  obtain ⟨q, hqm, hqs⟩ := hp
  rw [checkParams_eq, if_neg (List.ne_nil_of_mem hpm), if_neg fun h => by simp [h q hqm] at hqs,
    if_neg fun h => by simp [h p hpm] at hps]

/-- positional placeholders with a sequence of the wrong length: ProgrammingError -/
theorem C05_params_count (phs : List (Option String × Nat)) (vs : List Value)
    (hne : phs ≠ []) (hall : ∀ p ∈ phs, p.1 = none) (hlen : vs.length ≠ phs.length) :
    checkParams phs (.seq vs) = .error (.programming "wrong number of parameters") := by
  rw [checkParams_positional hne hall]
  exact if_neg hlen

/-- positional placeholders with a sequence of the right length are accepted -/
theorem C05_params_positional_ok (phs : List (Option String × Nat)) (vs : List Value)
    (hall : ∀ p ∈ phs, p.1 = none) (hlen : vs.length = phs.length) :
    checkParams phs (.seq vs) = .ok () := by
  by_cases hne : phs = []
  · subst hne; rfl
  · rw [checkParams_positional hne hall]
    exact if_pos hlen

/-- a statement without placeholders accepts any parameters argument -/
theorem C05_params_none (params : Params) : checkParams [] params = .ok () := rfl

/-- a bare Python exception from the parameter check is a TypeError: the one the code raises deliberately for a mapping
    given for positional placeholders or the converse.  (The second conjunct holds of every `params`.) -/
theorem C05_params_py_only_kind (phs : List (Option String × Nat)) (params : Params) (s : String)
    (h : checkParams phs params = .error (.py s)) :
    s = "TypeError" ∧ ((∀ kvs, params ≠ .map kvs) ∨ (∀ vs, params ≠ .seq vs)) := by
  -- `.py` is returned only where the named branch meets no mapping and the positional branch no sequence
  rw [checkParams_eq] at h
  split at h
  · cases h
  split at h
  · split at h
    · split at h <;> cases h
    · cases h
      exact ⟨rfl, .inl ‹_›⟩
  split at h
  · split at h
    · split at h <;> cases h
    · cases h
      exact ⟨rfl, .inr ‹_›⟩
  · cases h

/-- an accepted GROUP BY key denotes a target that is not an aggregate and has a hashable type,
    at a valid index of the (possibly extended) target list -/
theorem C05_group_key_rule (nvis : Nat) (vis ts ts' : List CTarget) (k : CKey) (u : CM CExpr) (i : Nat)
    (h : resolveGroupKey nvis vis ts k u = .ok (ts', i)) :
    ∃ t, ts'[i]? = some t ∧ t.expr.isAggregate = false ∧ hashableTy t.expr.ty = true :=
  (resolveGroupKey_ok h).2

/-- a positional GROUP BY reference outside 1..n is rejected with a CompilationError -/
theorem C05_group_index_range (nvis : Nat) (vis ts : List CTarget) (u : CM CExpr) (n : Nat)
    (hn : n = 0 ∨ nvis < n) :
    resolveGroupKey nvis vis ts (.idx n) u = .error (.compile "invalid GROUP-BY column index") := by
  simp only [resolveGroupKey, idx_out_of_range hn]
  rfl

theorem C05_order_index_range (nt : Nat) (named ts : List CTarget) (u : CM CExpr) (n : Nat)
    (hn : n = 0 ∨ nt < n) :
    resolveOrderKey nt named ts (.idx n) u = .error (.compile "invalid ORDER-BY column index") := by
  simp only [resolveOrderKey, idx_out_of_range hn]
  rfl

/-- coverage: in an aggregate query the non-aggregate targets are exactly the grouped ones -/
theorem C05_coverage_rule (ts : List CTarget) (g : List Nat) :
    coverageOk ts g = true ↔
      (∀ i, i < ts.length → (∃ t, ts[i]? = some t ∧ t.isAgg = false) → i ∈ g) ∧
      (∀ i ∈ g, i < ts.length ∧ ∃ t, ts[i]? = some t ∧ t.isAgg = false) := by
  unfold coverageOk
  simp only [Bool.and_eq_true, List.all_eq_true, List.mem_filter, List.mem_range, List.contains_eq_mem,
    decide_eq_true_eq, and_imp]
  -- what is left differs from the statement in how it says that target `i` is no aggregate
  refine and_congr (forall_congr' fun i => imp_congr_right fun _ => imp_congr_left ?_)
    (forall_congr' fun i => imp_congr_right fun _ => and_congr_right fun _ => ?_) <;>
  · generalize ts[i]? = o
    cases o <;> simp

/-- accepted PIVOT BY: two distinct target indexes, the second one grouped -/
theorem C05_pivot_rule (ts : List CTarget) (g : Option (List Nat)) (pv : List KeyRef) (i j : Nat)
    (h : compilePivot ts g pv = .ok (some (i, j))) :
    i ≠ j ∧ ∃ gl, g = some gl ∧ j ∈ gl := by
  unfold compilePivot at h
  split at h
  · cases h
  · -- two keys: each step of the chain that did not fail gives one part of the claim
    simp only at h
    split at h
    · cases h
    split at h
    · cases h
    split at h
    · cases h
    split at h
    · cases h
    split at h
    · rename_i hij _ gl hc
      cases h
      exact ⟨by simpa using hij, gl, rfl, by simpa using hc⟩
    · cases h
  · cases h

/-- without PIVOT BY there is no pivot -/
theorem C05_no_pivot (ts : List CTarget) (g : Option (List Nat)) : compilePivot ts g [] = .ok none := rfl

theorem C05_implicit_group (ts : List CTarget) :
    (implicitGroup ts = none ↔ ts.all (fun t => !t.isAgg) = true) := by
  rw [← List.not_any_eq_all_not]
  unfold implicitGroup
  cases ts.any (·.isAgg)
  · simp
  · simp only [if_true]
    split <;> simp

/-! ### non-vacuity -/
example : checkTarget (.binop .add (.col 0 "i" .int) (.agg .sum "sum" [.col 1 "j" .int] .int 0) .int)
    = .error (.compile "mixed aggregates and non-aggregates are not allowed") := by rfl
example : checkParams [(none, 7), (none, 3)] (.seq [.int 1, .int 2]) = .ok () := by rfl
example : checkParams [(none, 7), (some "a", 3)] (.seq [.int 1, .int 2])
    = .error (.programming "positional and named parameters cannot be mixed") := by rfl

end Bql.C05
