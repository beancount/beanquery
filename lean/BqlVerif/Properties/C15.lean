/-
  C15 — PIVOT BY is a lossless reshaping of a two-key aggregate result.
-/
import BqlVerif.Proofs.PivotLemmas
import BqlVerif.Proofs.OrderLemmas
set_option autoImplicit false
namespace Bql.C15
open Bql.Sort

/-- **Every output row has exactly one value per described column** and starts with the
    first-column value of its group. -/
theorem C15_width (keys : List Value) (othercols : List Nat) (col2 : Nat) (field1 : Value) (group : List Row) (res : Row)
    (h : pivotRow keys othercols col2 (1 + keys.length * othercols.length) field1 group = .ok res) :
    res.length = 1 + keys.length * othercols.length ∧ res.head? = some field1 :=
  have h := pivotRow_block keys othercols col2 field1 group res h
  ⟨h.1, h.2.1⟩

/-- **Cell theorem** (two-key aggregate result: at most one row per (first, second) pair).
    Block `k` of the output row of a group holds the remaining-column values of the unique row
    of the group whose second-column value is `keys[k]`, or NULLs if there is none. -/
theorem C15_cell (keys : List Value) (othercols : List Nat) (col2 : Nat) (field1 : Value) (group : List Row) (res : Row)
    (k : Nat) (hk : k < keys.length)
    (huniq : (group.filter (fun row => findIndex? keys (row.getD col2 .null) == some k)).length ≤ 1)
    (h : pivotRow keys othercols col2 (1 + keys.length * othercols.length) field1 group = .ok res) :
    block othercols.length res k =
      match group.find? (fun row => findIndex? keys (row.getD col2 .null) == some k) with
      | some row => otherVals othercols row
      | none => List.replicate othercols.length .null := by
  rw [(pivotRow_block keys othercols col2 field1 group res h).2.2 k hk, ← List.head?_filter]
  -- at most one row carries the key, so the last such row is the first
  generalize group.filter (fun row => findIndex? keys (row.getD col2 .null) == some k) = l at huniq
  -- (the match uses `huniq` to rule out longer lists)
  match l, huniq with
  | [r], _ => rfl
  | [], _ => rfl

/-! ### the key set and the row grouping -/

/-- distinct second-column values, each once … -/
theorem C15_keys_distinct (vs : List Value) : (dedupValues vs).Pairwise (fun a b => pyEq a b = false) := by
  rw [dedupValues_eq]; exact Agg.dedup_pairwise _ _

/-- … sorted ascending, as a permutation of the distinct values -/
theorem C15_keys_sorted (vs : List Value) :
    (stableSort keyLt vs).Perm vs ∧ Sorted (leOf keyLt) (stableSort keyLt vs) :=
  ⟨perm_stableSort _ _, sorted_stableSort (totalPre_of_swo keyLt_asymm keyLt_negTrans) _⟩

/-- grouping adjacent rows loses and invents nothing and keeps the order -/
theorem C15_groups_flatten (key : Row → Value) (rows : List Row) :
    (groupAdjacent key rows).flatMap (·.2) = rows := by
  induction rows with
  | nil => rfl
  | cons r rs ih =>
    -- `r` joins the first group of the rest or opens a group of its own: it comes first either way
    rw [groupAdjacent]
    conv => rhs; rw [← ih]
    cases groupAdjacent key rs with
    | nil => rfl
    | cons g more => dsimp only; split <;> rfl

/-- the rows are permuted into first-column order, so equal first-column values are adjacent -/
theorem C15_rows_sorted (col1 : Nat) (rows : List Row) :
    (sortPass [col1] false rows).Perm rows ∧ Sorted (leOf (tupleLt [col1])) (sortPass [col1] false rows) := by
  have h : tupleLt [col1] = lexLt [(col1, false)] := segLt_eq_lexLt false [col1]
  rw [sortPass_eq, h]
  exact ⟨perm_ssort _ _, sorted_ssort (lexLe_totalPre _) _⟩

/-- number of described columns after the leading `first/second` one: a block of the remaining columns per
    distinct second-column value -/
theorem C15_description_width (nkeys nother : Nat) (keyNames : List String) (others : List (String × Ty))
    (hk : keyNames.length = nkeys) (ho : others.length = nother) (hn : 1 < nother) :
    (keyNames.flatMap (fun k => others.map (fun c => k ++ "/" ++ c.1))).length = nkeys * nother := by
  subst hk ho
  induction keyNames with
  | nil => simp
  | cons k ks ih => simp [List.flatMap_cons, ih, Nat.add_mul]; omega

/-! ### non-vacuity: a 2 x 2 grid with one missing combination -/
def exDesc : List (String × Ty) := [("a", .str), ("b", .int), ("n", .int)]
def exRows : List Row := [[.str "y", .int 2, .int 5], [.str "x", .int 1, .int 7], [.str "x", .int 2, .int 9]]

example : execPivot exDesc exRows 0 1 =
    .ok ([("a/b", .str), ("1", .int), ("2", .int)], [[.str "x", .int 7, .int 9], [.str "y", .null, .int 5]]) := by rfl

end Bql.C15
