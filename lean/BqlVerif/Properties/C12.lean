/-
  C12 — Inventory aggregation is a homomorphism; the running balance is the prefix sum.
-/
import BqlVerif.Proofs.InventoryLemmas
set_option autoImplicit false
namespace Bql.C12

theorem C12_sum_uniq (l : List (LotKey × Int)) : (invSum l).Uniq := uniq_fold l [] uniq_nil

/-- every lot of the summed inventory holds the total of the positions with that lot key -/
theorem C12_sum_value (l : List (LotKey × Int)) (k : LotKey) : (invSum l).get k = sumKey k l := by
  rw [← sumKey_uniq _ (C12_sum_uniq l), invSum, sumKey_fold, sumKey_nil, Int.zero_add]

/-- **homomorphism**: the sum over a concatenation is the sum of the sums, lot by lot -/
theorem C12_sum_hom (l1 l2 : List (LotKey × Int)) (k : LotKey) :
    (invSum (l1 ++ l2)).get k = (invSum l1).get k + (invSum l2).get k := by
  simp only [C12_sum_value, sumKey_append]

/-- the sum does not depend on the order of the rows -/
theorem C12_sum_perm (l1 l2 : List (LotKey × Int)) (h : l1.Perm l2) (k : LotKey) :
    (invSum l1).get k = (invSum l2).get k := by
  simp only [C12_sum_value, sumKey_perm k h]

/-- hence the sums over any partition of the selection add up to the sum of the whole -/
theorem C12_partition (sel : List (LotKey × Int)) (groups : List (List (LotKey × Int))) (h : groups.flatten.Perm sel)
    (k : LotKey) :
    (groups.map (fun g => (invSum g).get k)).foldr (· + ·) 0 = (invSum sel).get k := by
  simp only [C12_sum_value, ← sumKey_perm k h, sumKey_flatten]

/-- summing inventories (`sum()` over an Inventory column) adds lot by lot -/
theorem C12_add_inventory (i j : Inv) (hi : i.Uniq) (hj : j.Uniq) (k : LotKey) :
    (i.addInv j).get k = i.get k + j.get k := by
  rw [Inv.addInv, ← sumKey_uniq _ (uniq_fold j i hi), sumKey_fold, sumKey_uniq i hi, sumKey_uniq j hj]

/-- **f(Σ) = Σ f**: applying a reducer (units, cost, value, convert) to the summed inventory
    gives, lot by lot, the sum of the reducer applied to every row -/
theorem C12_reduce_commutes (f : Reducer) (l : List (LotKey × Int)) (k' : LotKey) :
    ((invSum l).reduce f).get k' = (invSum (l.map f.onPos)).get k' := by
  rw [Inv.reduce, C12_sum_value, C12_sum_value]
  exact (sumKey_reduce_fold f k' l []).trans (Int.zero_add _)

/-- a row that does not evaluate `balance` (not selected, or not referenced) leaves it alone -/
theorem evalBalanceN_zero (st : ScanState) (rid : Nat) (p : LotKey × Int) : evalBalanceN st rid p 0 = (st, []) := rfl

/-- rows whose balance is evaluated at least once, with increasing row ids -/
def Increasing : Option Nat → List (Nat × (LotKey × Int) × Nat) → Prop
  | _, [] => True
  | last, (rid, _, refs) :: rest => (∀ l, last = some l → l < rid) ∧ 1 ≤ refs ∧ Increasing (some rid) rest

/-- **prefix sum**: in a scan where every processed row references `balance` (any number >= 1 of
    times), the values seen in the j-th row are all the inventory sum of the first j postings. -/
theorem C12_balance_prefix (rows : List (Nat × (LotKey × Int) × Nat)) (st : ScanState) (h : Increasing st.balanceRowid rows) :
    (scan st rows).2 =
      (List.range rows.length).map (fun j =>
        List.replicate ((rows.getD j (0, (⟨"", none⟩, 0), 0)).2.2)
          (((rows.take (j + 1)).map (·.2.1)).foldl (fun i p => i.addAmount p.1 p.2) st.balance)) ∧
    (scan st rows).1.balance = (rows.map (·.2.1)).foldl (fun i p => i.addAmount p.1 p.2) st.balance := by
  induction rows generalizing st with
  | nil => simp [scan]
  | cons r rest ih =>
    obtain ⟨rid, p, refs⟩ := r
    obtain ⟨hlast, hrefs, hinc⟩ := h
    have hfresh : st.balanceRowid ≠ some rid := fun e => Nat.lt_irrefl rid (hlast rid e)
    simp only [scan, evalBalanceN_fresh st rid p refs hfresh hrefs]
    obtain ⟨h1, h2⟩ := ih { balance := st.balance.addAmount p.1 p.2, balanceRowid := some rid } hinc
    refine ⟨?_, ?_⟩
    · rw [h1]
      simp only [List.length_cons, List.range_succ_eq_map, List.map_cons, List.map_map]
      congr 1
    · simpa using h2

/-- the last balance of a scan equals sum(position) over the same rows -/
theorem C12_last_is_sum (rows : List (Nat × (LotKey × Int) × Nat)) (h : Increasing none rows) :
    (scan {} rows).1.balance = invSum (rows.map (·.2.1)) := by
  simpa [invSum] using (C12_balance_prefix rows {} h).2

/-! ### the former shared cache: a violating interleaving (single-threaded witness: a subquery) -/

def usd : LotKey := ⟨"USD", none⟩

/-- scan A evaluates balance on its row 1, scan B (another row context) evaluates its own row 1,
    then A evaluates balance again *in the same row*: the posting is counted twice. -/
theorem C12_shared_cache_counterexample :
    let c0 : SharedCache := {}
    let (c1, balA1, v1) := evalBalanceShared c0 0 [] 1 (usd, 100)
    let (c2, _, _) := evalBalanceShared c1 1 [] 1 (usd, 100)
    let (_, _, v2) := evalBalanceShared c2 0 balA1 1 (usd, 100)
    v1 = [(usd, 100)] ∧ v2 = [(usd, 200)] := by
  decide

/-- the private guard is immune to it: what another scan does cannot change this scan's state -/
example :
    let (st1, v1) := evalBalance {} 1 (usd, 100)
    let (_, v2) := evalBalance st1 1 (usd, 100)
    v1 = [(usd, 100)] ∧ v2 = [(usd, 100)] := by decide

def acme (c : Int) : LotKey := ⟨"ACME", some (c, "USD", 737425, "")⟩

example : invSum [(usd, 100), (acme 10, 5), (usd, -100), (acme 12, 2), (acme 10, -5)] = [(acme 12, 2)] := by decide
example : ((invSum [(acme 10, 5), (acme 12, 2)]).reduce ⟨fun k => ⟨k.cur, none⟩, fun _ => 1⟩) = [(⟨"ACME", none⟩, 7)] := by decide

end Bql.C12
