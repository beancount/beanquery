/-
  C10 — Cursor fetch protocol and description conform to the DB-API.
  The cursor keeps the invariant `Inv` towards the result of the last execute, and every call, hence every
  sequence of calls, hands over a prefix of the undelivered rows (`FetchOk`).
-/
import BqlVerif.Proofs.CursorLemmas
import BqlVerif.Proofs.SliceLemmas
set_option autoImplicit false
namespace Bql.C10

/-- every fetch operation delivers exactly the next undelivered rows, in order -/
theorem C10_step (result : List CRow) (c : Cursor) (op : CursorOp) (h : Inv result c)
    (hop : ∀ d r, op ≠ .execute d r) :
    FetchOk result c (c.step op).1 (c.step op).2.delivered :=
  step_ok result c op h hop

/-- **Refinement over every call sequence after an execute**: what had been delivered before,
    followed by everything the calls deliver, is the prefix of the result of length `rownumber`
    — rows come in order, none twice, none skipped — and `rowcount` stays the result size. -/
theorem C10_refines (result : List CRow) (ops : List CursorOp) (c : Cursor) (h : Inv result c)
    (hops : ∀ op ∈ ops, isExecute op = false) :
    Inv result (c.run ops).1 ∧
    result.take c.pos ++ (c.run ops).2.flatMap CursorOut.delivered = result.take (c.run ops).1.pos :=
  have h := run_ok result ops c h hops
  ⟨h.1, h.take_append⟩

/-- from a fresh execute: delivered rows = the first `rownumber` rows of the result -/
theorem C10_after_execute (c0 : Cursor) (d : List (String × String)) (result : List CRow) (ops : List CursorOp)
    (hops : ∀ op ∈ ops, isExecute op = false) :
    let c' := ((c0.step (.execute d result)).1.run ops).1
    let outs := ((c0.step (.execute d result)).1.run ops).2
    outs.flatMap CursorOut.delivered = result.take c'.pos ∧ c'.rowcount = result.length ∧ c'.pos ≤ result.length := by
  have h := C10_refines result ops (c0.step (.execute d result)).1 (execute_inv c0 d result) hops
  have hp0 : (c0.step (.execute d result)).1.pos = 0 := by simp [Cursor.step]
  rw [hp0] at h
  simp only [List.take_zero, List.nil_append] at h
  exact ⟨h.2, h.1.2.2, h.1.2.1⟩

/-- exhaustion: `fetchone` returns None and the others an empty list exactly when every row
    has been delivered -/
theorem C10_exhaustion (result : List CRow) (c : Cursor) (h : Inv result c) :
    (c.fetchone.2 = .none ↔ c.pos = result.length) ∧
    (c.fetchall.2 = .rows [] ↔ c.pos = result.length) ∧
    (∀ n, 0 < n → ((c.fetchmany (some n)).2 = .rows [] ↔ c.pos = result.length)) := by
  have hnil : result.drop c.pos = [] ↔ c.pos = result.length := by
    rw [List.drop_eq_nil_iff]; have := h.2.1; omega
  refine ⟨?_, ?_, ?_⟩
  · cases hd : result.drop c.pos with
    | nil => rw [fetchone_nil h hd]; simp [← hnil, hd]
    | cons r rest => rw [fetchone_cons h hd]; simp [← hnil, hd]
  · unfold Cursor.fetchall; rw [h.1]; simp [← hnil]
  · intro n hn
    unfold Cursor.fetchmany; rw [h.1]
    simp [List.take_eq_nil_iff, ← hnil]; omega

/-- an iterator kept open across other calls: while it is live, `next()` delivers the next rows (those of
    `iterNext 1`: `C10_held_iterator_fresh`) of the result of the LAST execute at the cursor's current position
    (whatever was fetched or executed since the iterator was obtained) and keeps the invariant; exactly at the end
    of the result it delivers nothing and ends -/
theorem C10_held_iterator (result : List CRow) (c : Cursor) (h : Inv result c) :
    FetchOk result c (c.heldNext false).1 (c.heldNext false).2.2 ∧
    ((c.heldNext false).2.1 = true ↔ c.pos = result.length) ∧
    ((c.heldNext false).2.2 = [] ↔ c.pos = result.length) := by
  have hf := fetchone_ok result c h
  have hx := (C10_exhaustion result c h).1
  unfold Cursor.heldNext
  simp only [Bool.false_eq_true, if_false]
  cases hd : result.drop c.pos with
  | nil =>
    rw [fetchone_nil h hd] at hf hx ⊢
    exact ⟨hf, by simpa using hx, by simpa using hx⟩
  | cons r rest =>
    rw [fetchone_cons h hd] at hf hx ⊢
    exact ⟨hf, by simpa using hx, by simpa using hx⟩

/-- an iterator that has ended stays ended: it delivers nothing and does not touch the cursor, also after another
    execute has given the cursor new rows -/
theorem C10_held_iterator_ended (c : Cursor) : c.heldNext true = (c, true, []) := rfl

/-- a live kept iterator behaves like the first step of a fresh iteration -/
theorem C10_held_iterator_fresh (c : Cursor) :
    ((c.heldNext false).1, (c.heldNext false).2.2) = c.iterNext 1 := by
  unfold Cursor.heldNext Cursor.iterNext
  simp only [Bool.false_eq_true, if_false]
  cases hfo : c.fetchone with
  | mk c' o => cases o <;> simp [Cursor.iterNext]

/-- before any execute: fetchone is None, the others are empty, rowcount is -1, no description -/
theorem C10_before_execute :
    let c : Cursor := {}
    c.fetchone.2 = .none ∧ (c.fetchmany none).2 = .rows [] ∧ c.fetchall.2 = .rows [] ∧
    c.rowcount = -1 ∧ c.desc = none ∧ (c.iterNext 3).2 = [] := by
  simp [Cursor.fetchone, Cursor.fetchmany, Cursor.fetchall, Cursor.iterNext]

/-- a new execute resets position, row count and description -/
theorem C10_execute_resets (c : Cursor) (d : List (String × String)) (res : List CRow) :
    let c' := (c.step (.execute d res)).1
    c'.pos = 0 ∧ c'.rowcount = res.length ∧ c'.desc = some d ∧ c'.rows = some res := by
  simp [Cursor.step]

/-! ### description items -/

theorem C10_column_len (n t : String) : (columnItems n t).length = 7 := rfl

theorem C10_column_index (n t : String) :
    columnGet n t 0 = some (.name n) ∧ columnGet n t 1 = some (.typeCode t) ∧
    (∀ i : Int, 2 ≤ i → i < 7 → columnGet n t i = some .nothing) ∧
    columnGet n t (-7) = some (.name n) ∧ columnGet n t 7 = none ∧ columnGet n t (-8) = none := by
  refine ⟨rfl, rfl, ?_, rfl, rfl, rfl⟩
  intro i h1 h2
  have : i = 2 ∨ i = 3 ∨ i = 4 ∨ i = 5 ∨ i = 6 := by omega
  rcases this with rfl | rfl | rfl | rfl | rfl <;> rfl

/-- `column[a:b]` on the seven items: all of them for `[:]`, the name and the type code for `[0:2]`, and `b - a` items
    for bounds within `0..7` -/
theorem C10_column_slice_full (n t : String) : columnSlice n t none none = columnItems n t := rfl

theorem C10_column_slice_prefix (n t : String) : columnSlice n t (some 0) (some 2) = [.name n, .typeCode t] := rfl

theorem C10_column_slice_len (n t : String) (a b : Int) (ha : 0 ≤ a) (hab : a ≤ b) (hb : b ≤ 7) :
    (columnSlice n t (some a) (some b)).length = (b - a).toNat := by
  obtain ⟨a, rfl⟩ := Int.eq_ofNat_of_zero_le ha
  obtain ⟨b, rfl⟩ := Int.eq_ofNat_of_zero_le (Int.le_trans ha hab)
  -- `columnSlice` normalises its bounds as `pySlice` does
  show (pySlice (columnItems n t) a b).length = _
  rw [pySlice_nat, List.length_take, List.length_drop, C10_column_len]
  omega

/-! ### several cursors on one connection -/

/-- **Frame**: whatever is called on the other cursors of the connection, and in whatever
    interleaving, cursor `j` ends in the state its own calls alone lead to (hence delivers the
    same rows): the cursors of a connection do not influence each other. -/
theorem C10_frame (ops : List (Nat × CursorOp)) (cs : List Cursor) (j : Nat) (c : Cursor) (hj : cs[j]? = some c) :
    (runMulti cs ops)[j]? = some (c.run ((ops.filter (fun p => p.1 == j)).map (·.2))).1 := by
  rw [getElem?_runMulti, hj]; rfl

/-- **executemany** leaves the cursor as the execute of the LAST parameter set leaves it - rowcount, rownumber,
    description and the rows still to be fetched are those of that result alone - and changes nothing when there is no
    parameter set -/
theorem C10_executemany (c : Cursor) (results : List (List (String × String) × List CRow)) :
    c.executemany results =
      match results.getLast? with
      | none => c
      | some r => { c with rows := some r.2, rowcount := r.2.length, pos := 0, desc := some r.1 } := by
  unfold Cursor.executemany
  induction results generalizing c with
  | nil => rfl
  | cons r rest ih =>
    rw [List.foldl_cons, ih, List.getLast?_cons]
    cases rest.getLast? <;> rfl

/-! ### non-vacuity -/
example : Inv [[.int 1], [.int 2], [.int 3]] (({} : Cursor).step (.execute [("x", "int")] [[.int 1], [.int 2], [.int 3]])).1 :=
  execute_inv _ _ _

end Bql.C10
