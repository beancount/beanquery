/-
  C17 — numberify decomposes amounts per currency without losing or inventing quantities.
-/
import BqlVerif.Proofs.NumberifyLemmas
import BqlVerif.Proofs.KeyOrder
set_option autoImplicit false
namespace Bql.C17
open Bql.Sort

/-- row count and row order are untouched: output row i is computed from input row i alone -/
theorem C17_rows (cols : List (String × NKind)) (rows : List (List NCell)) (q : Option (Dec → String → Dec)) :
    (numberify cols rows q).2.length = rows.length ∧
    ∀ i (h : i < rows.length),
      (numberify cols rows q).2[i]? = some ((buildConverters cols rows).map (fun c => applyConv q rows[i] c.2)) := by
  refine ⟨by simp [numberify], ?_⟩
  intro i h
  simp [numberify, h]

/-- every output row has exactly one cell per output column -/
theorem C17_width (cols : List (String × NKind)) (rows : List (List NCell)) (q : Option (Dec → String → Dec)) :
    ∀ r ∈ (numberify cols rows q).2, r.length = (numberify cols rows q).1.length := by
  intro r hr
  simp only [numberify, List.mem_map] at hr
  obtain ⟨x, _, rfl⟩ := hr
  simp [numberify]

/-- a plain column is copied: one converter, named like the column, returning the cell itself -/
theorem C17_identity (i : Nat) (q : Option (Dec → String → Dec)) (row : List NCell) :
    applyConv q row (.identity i) = .keep (row.getD i .null) := rfl

theorem C17_plain_column_converters (rows : List (List NCell)) (name : String) :
    buildConverters [(name, .plain)] rows = [(name, .identity 0)] := by
  simp [buildConverters, List.zipIdx]

/-- naming: `name (CUR)` -/
theorem C17_names (rows : List (List NCell)) (name : String) (k : NKind) (hk : k ≠ .plain) :
    (buildConverters [(name, k)] rows).map (·.1) =
      (orderCurrencies (census k (column rows 0))).map (fun c => name ++ " (" ++ c ++ ")") := by
  simp [buildConverters, List.zipIdx, hk, Function.comp_def]

/-! ### cells -/

/-- Amount column: the number of the amount (quantised) under its own currency, NULL elsewhere -/
theorem C17_cell_amount (cur c : String) (n : Dec) (q : Option (Dec → String → Dec)) :
    convertCell .amount cur q (.amount n c) =
      if c = cur then some (applyQ q n cur) else none := by
  by_cases h : c = cur <;> simp [convertCell, h]

theorem C17_cell_position (cur c : String) (n : Dec) (q : Option (Dec → String → Dec)) :
    convertCell .position cur q (.position n c) =
      if c = cur then some (applyQ q n cur) else none := by
  by_cases h : c = cur <;> simp [convertCell, h]

/-- NULL cells stay NULL in every currency column -/
theorem C17_cell_null (k : NKind) (cur : String) (q : Option (Dec → String → Dec)) :
    convertCell k cur q .null = none := rfl

/-- Inventory column: the units of that currency summed over lots (quantised); NULL when the sum
    (or its quantised value) is zero -/
theorem C17_cell_inventory (cur : String) (lots : List (Dec × String)) (q : Option (Dec → String → Dec)) :
    convertCell .inventory cur q (.inventory lots) =
      if (applyQ q (inventoryUnits lots cur) cur).coef = 0 ∨ (inventoryUnits lots cur).coef = 0 then none
      else some (applyQ q (inventoryUnits lots cur) cur) := by
  simp [convertCell]

/-- lots of other currencies do not contribute to a currency's total -/
theorem C17_inventory_units_other (lots : List (Dec × String)) (cur : String) (acc : Dec)
    (h : ∀ l ∈ lots, l.2 ≠ cur) :
    lots.foldl (fun acc l => if l.2 == cur then Dec.add acc l.1 else acc) acc = acc := by
  induction lots generalizing acc with
  | nil => rfl
  | cons l ls ih =>
    have hl : (l.2 == cur) = false := by simpa using h l (List.mem_cons_self ..)
    simp only [List.foldl_cons, hl, Bool.false_eq_true, ↓reduceIte]
    exact ih acc (fun x hx => h x (List.mem_cons_of_mem _ hx))

/-- a currency absent from the inventory gives NULL -/
theorem C17_absent (cur : String) (lots : List (Dec × String)) (q : Option (Dec → String → Dec))
    (h : ∀ l ∈ lots, l.2 ≠ cur) : convertCell .inventory cur q (.inventory lots) = none := by
  have : inventoryUnits lots cur = ⟨0, 0⟩ := C17_inventory_units_other lots cur ⟨0, 0⟩ h
  simp [convertCell, this]

/-! ### the census loses no currency, and ordering it only permutes them -/

/-- **No currency is dropped**: every currency a cell of the column contributes is a key of the
    census, hence gets its own output column. -/
theorem C17_census_complete (k : NKind) (cells : List NCell) (cell : NCell) (x : String)
    (hc : cell ∈ cells) (hx : x ∈ cellCurrencies k cell) :
    x ∈ (census k cells).map (·.1) := by
  obtain ⟨a, ha, hax⟩ := Agg.dedup_covers _ Agg.beq_eqv _ x (List.mem_flatMap.mpr ⟨cell, hc, hx⟩)
  rw [census_eq, Agg.aggSpec, List.map_map, ← beq_iff_eq.mp hax]
  simpa using ha

/-- the output columns of one input column are a permutation of the census keys -/
theorem C17_order_perm (m : List (String × Nat)) : (orderCurrencies m).Perm (m.map (·.1)) := by
  unfold orderCurrencies
  exact (perm_stableSort _ m).map _

/-- an amount's own currency has an output column in which its number appears -/
theorem C17_no_loss_amount (cells : List NCell) (n : Dec) (c : String) (hc : c ≠ "")
    (hmem : NCell.amount n c ∈ cells) :
    c ∈ orderCurrencies (census .amount cells) ∧ convertCell .amount c none (.amount n c) = some n := by
  refine ⟨?_, by simp [convertCell, applyQ]⟩
  have h1 : c ∈ cellCurrencies .amount (.amount n c) := by simp [cellCurrencies, hc]
  have h2 := C17_census_complete .amount cells _ c hmem h1
  exact (C17_order_perm _).mem_iff.mpr h2

/-! ### non-vacuity -/
def exRows : List (List NCell) :=
  [[.plain (.int 1), .amount ⟨150, -2⟩ "USD"], [.plain (.int 2), .amount ⟨7, 0⟩ "EUR"],
   [.plain (.int 3), .amount ⟨2, 0⟩ "USD"], [.plain (.int 4), .null]]

example : (numberify [("i", .plain), ("a", .amount)] exRows none).1 = ["i", "a (USD)", "a (EUR)"] := by rfl

end Bql.C17
