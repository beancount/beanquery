/-
  C13 — OPEN / CLOSE / CLEAR present the ledger as a period report preserving balances.

  `tsum a k es` is the total number posted to account `a` in lot `k` over the transactions `es`;
  an account's inventory is the family of these totals.  The model (Model/Summarize.lean) covers
  transactions without price conversions; see DESIGN.md for what is modelled rather than verified.
-/
import BqlVerif.Proofs.SummLemmas
set_option autoImplicit false
namespace Bql.C13
open Bql.Summ

def Sorted (es : List Txn) : Prop := es.Pairwise (fun a b => a.date ≤ b.date)

/-- with all three clauses, `prepare` is **OPEN, then CLOSE, then CLEAR** -/
theorem C13_order_fixed (acc : Accounts) (es : List Txn) (d : Nat) (e : Option Nat) :
    prepare acc es (some d) (some e) true = clearAll acc (closeAt (openAt acc es d) e) := rfl

theorem C13_no_clause (acc : Accounts) (es : List Txn) : prepare acc es none none false = es := rfl

/-- nothing dated on or after the CLOSE date is returned; what is returned is a prefix of the input -/
theorem C13_close_window (es : List Txn) (e : Nat) :
    (∀ t ∈ closeAt es (some e), t.date < e) ∧ closeAt es (some e) <+: es := by
  refine ⟨?_, List.takeWhile_prefix _⟩
  intro t ht
  simpa using mem_takeWhile_imp (ltDate e) es t ht

/-- on a ledger sorted by date, CLOSE keeps every transaction before the date -/
theorem C13_close_complete (es : List Txn) (e : Nat) (h : Sorted es) :
    closeAt es (some e) = es.filter (ltDate e) := by
  show List.takeWhile (ltDate e) es = _
  induction es with
  | nil => rfl
  | cons t r ih =>
    have hr : Sorted r := (List.pairwise_cons.mp h).2
    have ht := (List.pairwise_cons.mp h).1
    simp only [List.takeWhile_cons, List.filter_cons]
    by_cases hd : ltDate e t = true
    · simp only [hd, ↓reduceIte]; rw [ih hr]
    · simp only [hd, Bool.false_eq_true, ↓reduceIte]
      symm
      apply List.filter_eq_nil_iff.mpr
      intro x hx
      have := ht x hx
      simp only [decide_eq_true_eq] at hd ⊢
      omega

theorem C13_close_without_date (es : List Txn) : closeAt es none = es := rfl

/-- **OPEN ON d**: summarising entries dated d-1 that balance, followed by exactly the original
    transactions from the first one dated on or after d, unchanged and in order -/
theorem C13_open_shape (acc : Accounts) (es : List Txn) (d : Nat) (hd : 0 < d) :
    ∃ summary, openAt acc es d = summary ++ es.dropWhile (ltDate d) ∧
      ∀ t ∈ summary, t.date = d - 1 ∧ t.kind = .summarize ∧ t.balanced = true :=
  ⟨openSummary acc es d, openAt_eq acc es d hd, entries_date⟩

/-- **balance sheet accounts keep their balance under OPEN** (every account that is neither an
    income-statement account nor one of the two equity accounts receiving the differences) -/
theorem C13_open_balance_sheet (acc : Accounts) (es : List Txn) (d : Nat) (hd : 0 < d) (a : String) (k : LotKey)
    (h1 : acc.isIncomeStatement a = false) (h2 : a ≠ acc.opening) (h3 : a ≠ acc.earningsPrevious) :
    tsum a k (openAt acc es d) = tsum a k es := by
  rw [openAt_eq acc es d hd, tsum_append, tsum_openSummary acc es d hd a k h2 h3, h1, if_neg Bool.false_ne_true,
    ← tsum_append, List.takeWhile_append_dropWhile]

/-- **income statement accounts carry only the activity since d** -/
theorem C13_open_income_statement (acc : Accounts) (es : List Txn) (d : Nat) (hd : 0 < d) (a : String) (k : LotKey)
    (h1 : acc.isIncomeStatement a = true) (h2 : a ≠ acc.opening) (h3 : a ≠ acc.earningsPrevious) :
    tsum a k (openAt acc es d) = tsum a k (es.dropWhile (ltDate d)) := by
  rw [openAt_eq acc es d hd, tsum_append, tsum_openSummary acc es d hd a k h2 h3, h1]
  simp

/-- CLEAR appends balanced transfer entries after the unchanged input -/
theorem C13_clear_shape (acc : Accounts) (es : List Txn) :
    ∃ transfers, clearAll acc es = es ++ transfers ∧ ∀ t ∈ transfers, t.kind = .transfer ∧ t.balanced = true :=
  ⟨_, clearAll_eq acc es, fun t ht => (entries_date t ht).2⟩

/-- **with CLEAR the income statement accounts total to zero; all other accounts (but the equity
    account receiving the result) keep their balance** -/
theorem C13_clear (acc : Accounts) (es : List Txn) (a : String) (k : LotKey) (h : a ≠ acc.earningsCurrent) :
    tsum a k (clearAll acc es) = if acc.isIncomeStatement a then 0 else tsum a k es := by
  rw [clearAll_eq, tsum_append, tsum_transferEntries a k es none _ _ h, before]
  split <;> omega

/-- **every returned transaction is an original one, unchanged, or a generated one that balances**
    — for every subset of the three clauses -/
theorem C13_all_balance (acc : Accounts) (es : List Txn) (open_ : Option Nat) (close : Option (Option Nat)) (clear : Bool)
    (hd : ∀ d, open_ = some d → 0 < d) :
    ∀ t ∈ prepare acc es open_ close clear, t ∈ es ∨ t.balanced = true := by
  have s1 : ∀ t ∈ (match open_ with | some d => openAt acc es d | none => es), t ∈ es ∨ t.balanced = true := by
    cases open_ with
    | none => exact fun t h => Or.inl h
    | some d => exact open_mem acc es d (hd d rfl)
  have s2 : ∀ es1 : List Txn, (∀ t ∈ es1, t ∈ es ∨ t.balanced = true) →
      ∀ t ∈ (match close with | some e => closeAt es1 e | none => es1), t ∈ es ∨ t.balanced = true := by
    intro es1 h1
    cases close with
    | none => exact h1
    | some e => exact fun t h => h1 t (close_mem es1 e t h)
  have s3 : ∀ es2 : List Txn, (∀ t ∈ es2, t ∈ es ∨ t.balanced = true) →
      ∀ t ∈ (if clear = true then clearAll acc es2 else es2), t ∈ es ∨ t.balanced = true := by
    intro es2 h2
    cases clear with
    | false => exact h2
    | true =>
      intro t ht
      rcases clear_mem acc es2 t ht with h | h
      · exact h2 t h
      · exact Or.inr h
  exact s3 _ (s2 _ s1)

/-- the originals returned by `OPEN ON d CLOSE ON e` are exactly the contiguous run of input
    transactions from the first dated >= d up to the first dated >= e, unchanged and in order,
    preceded by balanced summarising entries dated d-1 -/
theorem C13_period_shape (acc : Accounts) (es : List Txn) (d e : Nat) (hd : 0 < d) (hde : d ≤ e) :
    ∃ summary, prepare acc es (some d) (some (some e)) false = summary ++ (es.dropWhile (ltDate d)).takeWhile (ltDate e) ∧
      ∀ t ∈ summary, t.date = d - 1 ∧ t.kind = .summarize ∧ t.balanced = true :=
  ⟨openSummary acc es d, period_eq acc es d e hd hde, entries_date⟩

/-- **Period report.**  For `OPEN ON d CLOSE ON e` (d <= e): every balance-sheet account (but the two
    equity accounts receiving the differences) totals to its balance as of `e` in the full ledger,
    every income-statement account to its activity in `[d, e)`. -/
theorem C13_period_report (acc : Accounts) (es : List Txn) (d e : Nat) (hd : 0 < d) (hde : d ≤ e) (a : String) (k : LotKey)
    (h2 : a ≠ acc.opening) (h3 : a ≠ acc.earningsPrevious) :
    (acc.isIncomeStatement a = false → tsum a k (prepare acc es (some d) (some (some e)) false) = tsum a k (closeAt es (some e))) ∧
    (acc.isIncomeStatement a = true → tsum a k (prepare acc es (some d) (some (some e)) false) =
        tsum a k ((es.dropWhile (ltDate d)).takeWhile (ltDate e))) := by
  rw [period_eq acc es d e hd hde, tsum_append, tsum_openSummary acc es d hd a k h2 h3]
  constructor <;> intro h <;> rw [h]
  · show _ = tsum a k (es.takeWhile (ltDate e))
    rw [takeWhile_split es d e hde, tsum_append]
    rfl
  · simp

/-- … and with CLEAR the income-statement accounts total to zero while the balance-sheet accounts
    still show their balance as of `e` -/
theorem C13_period_report_clear (acc : Accounts) (es : List Txn) (d e : Nat) (hd : 0 < d) (hde : d ≤ e) (a : String) (k : LotKey)
    (h2 : a ≠ acc.opening) (h3 : a ≠ acc.earningsPrevious) (h4 : a ≠ acc.earningsCurrent) :
    tsum a k (prepare acc es (some d) (some (some e)) true) =
      if acc.isIncomeStatement a then 0 else tsum a k (closeAt es (some e)) := by
  rw [prepare_clear, C13_clear acc _ a k h4]
  split
  · rfl
  · rename_i hp
    exact (C13_period_report acc es d e hd hde a k h2 h3).1 (Bool.eq_false_iff.mpr hp)

def exAcc : Accounts :=
  { isIncomeStatement := fun a => a == "Income:Salary" || a == "Expenses:Food",
    earningsPrevious := "Equity:Earnings:Previous", earningsCurrent := "Equity:Earnings:Current", opening := "Equity:Opening-Balances" }

def exLedger : List Txn :=
  [ ⟨10, .original 0, [⟨"Assets:Bank", ⟨"USD", none⟩, 1000000000⟩, ⟨"Income:Salary", ⟨"USD", none⟩, -1000000000⟩]⟩,
    ⟨20, .original 1, [⟨"Assets:Broker", ⟨"HOOL", some (100000000, "USD", 20, "")⟩, 2000000⟩, ⟨"Assets:Bank", ⟨"USD", none⟩, -200000000⟩]⟩,
    ⟨30, .original 2, [⟨"Expenses:Food", ⟨"USD", none⟩, 50000000⟩, ⟨"Assets:Bank", ⟨"USD", none⟩, -50000000⟩]⟩ ]

example : (exLedger.all Txn.balanced) = true := by decide
example : ((prepare exAcc exLedger (some 25) (some (some 40)) true).all Txn.balanced) = true := by decide +kernel
example : ((prepare exAcc exLedger (some 25) (some (some 40)) true).map (·.date)) = [24, 24, 24, 30, 30] := by decide +kernel

end Bql.C13
