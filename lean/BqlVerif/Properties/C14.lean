/-
  C14 — BALANCES / JOURNAL / PRINT equal their SELECT expansions.
-/
import BqlVerif.Proofs.TemplateLemmas
set_option autoImplicit false
namespace Bql.C14

/-- **BALANCES [AT f]** is rewritten into exactly the SELECT the property names, without a summary
    function and with `units` and `cost`: the AST dumped from the live `transform_balances` equals the specification. -/
theorem C14_balances_template :
    template "balances:None" = some (balancesDoc none) ∧
    template "balances:units" = some (balancesDoc (some "units")) ∧
    template "balances:cost" = some (balancesDoc (some "cost")) := by
  refine (templates_and <| templates_and <| template_of_is) ?_
  decide +kernel

/-- **JOURNAL [account] [AT f]** likewise, with and without an account pattern -/
theorem C14_journal_template :
    template "journal:None:None" = some (journalDoc none none) ∧
    template "journal:Assets:None" = some (journalDoc (some "Assets") none) ∧
    template "journal:None:units" = some (journalDoc none (some "units")) ∧
    template "journal:Assets:units" = some (journalDoc (some "Assets") (some "units")) ∧
    template "journal:None:cost" = some (journalDoc none (some "cost")) ∧
    template "journal:Assets:cost" = some (journalDoc (some "Assets") (some "cost")) := by
  refine (templates_and <| templates_and <| templates_and <| templates_and <| templates_and <| template_of_is) ?_
  decide +kernel

/-- **the FROM and WHERE clauses of the statement are carried over as they are**, at their place in the SELECT, for
    the same summary functions (the live transforms run on sentinel clauses; JOURNAL has no WHERE of its own) -/
theorem C14_balances_clauses :
    template "balances:None:from:where" = some (balancesDocFW none (some sentinelFrom) (some sentinelWhere)) ∧
    template "balances:units:from:where" = some (balancesDocFW (some "units") (some sentinelFrom) (some sentinelWhere)) ∧
    template "balances:cost:from:where" = some (balancesDocFW (some "cost") (some sentinelFrom) (some sentinelWhere)) ∧
    template "balances:None:from" = some (balancesDocFW none (some sentinelFrom) none) ∧
    template "balances:units:from" = some (balancesDocFW (some "units") (some sentinelFrom) none) ∧
    template "balances:cost:from" = some (balancesDocFW (some "cost") (some sentinelFrom) none) ∧
    template "balances:None:where" = some (balancesDocFW none none (some sentinelWhere)) ∧
    template "balances:units:where" = some (balancesDocFW (some "units") none (some sentinelWhere)) ∧
    template "balances:cost:where" = some (balancesDocFW (some "cost") none (some sentinelWhere)) := by
  refine (templates_and <| templates_and <| templates_and <| templates_and <| templates_and <| templates_and <|
    templates_and <| templates_and <| template_of_is) ?_
  decide +kernel

theorem C14_journal_clauses :
    template "journal:None:None:from" = some (journalDocF none none (some sentinelFrom)) ∧
    template "journal:Assets:None:from" = some (journalDocF (some "Assets") none (some sentinelFrom)) ∧
    template "journal:None:units:from" = some (journalDocF none (some "units") (some sentinelFrom)) ∧
    template "journal:Assets:units:from" = some (journalDocF (some "Assets") (some "units") (some sentinelFrom)) ∧
    template "journal:None:cost:from" = some (journalDocF none (some "cost") (some sentinelFrom)) ∧
    template "journal:Assets:cost:from" = some (journalDocF (some "Assets") (some "cost") (some sentinelFrom)) := by
  refine (templates_and <| templates_and <| templates_and <| templates_and <| templates_and <| template_of_is) ?_
  decide +kernel

/-- the generated trees are what the live `ast.tosexp` prints (checked by the translator with the line-by-line
    algorithm of `Doc.lines`, recorded as a generated fact) -/
theorem C14_trees_print_to_tosexp : Gen.templateTreesPrint = true := by decide

/-- **PRINT** emits exactly the directives satisfying the FROM expression, in ledger order -/
theorem C14_print_filter {E : Type} (p : E → Bool) (entries : List E) : printLoop p entries = entries.filter p := by
  unfold printLoop
  suffices h : ∀ acc, entries.foldl (fun acc e => if p e then acc ++ [e] else acc) acc = acc ++ entries.filter p by
    simpa using h []
  induction entries with
  | nil => simp
  | cons e es ih =>
    intro acc
    simp only [List.foldl_cons, ih, List.filter_cons]
    cases p e <;> simp

theorem C14_print_order {E : Type} (p : E → Bool) (entries : List E) : (printLoop p entries).Sublist entries := by
  rw [C14_print_filter]; exact List.filter_sublist

theorem C14_print_all {E : Type} (entries : List E) : printLoop (fun _ => true) entries = entries := by
  rw [C14_print_filter]; simp

-- `Doc.render` reproduces `tosexp` on a small node
example : (targetDoc (colDoc "account")).render = "(target\n  expression: (column\n    name: 'account'))" := by decide +kernel

end Bql.C14
