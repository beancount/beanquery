/-
  C18 — Scalar function library obeys calendar, account-name, string and numeric laws.

  Structural laws for all dates, and laws that depend on the ordinal encoding, stated over the
  property's own range 1900-01-01 .. 2100-12-31: these follow from the theorems of
  `Proofs/CalendarLemmas` (ordinal round trip, (y, m, d) round trip, ISO calendar consistency),
  which hold for all dates.
-/
import BqlVerif.Proofs.CalendarLemmas
import BqlVerif.Proofs.ShortenLemmas
import BqlVerif.Proofs.SliceLemmas
set_option autoImplicit false
namespace Bql.C18

def loOrd : Nat := 693596     -- 1900-01-01
def hiOrd : Nat := 767011     -- 2101-01-02 (exclusive): the range and one day more

theorem C18_trunc_month (x : Date) (hd : 1 ≤ x.d) :
    ∃ t, dateTrunc "month" x = some t ∧ dle t x ∧ t.d = 1 ∧ t.y = x.y ∧ t.m = x.m ∧
      dateTrunc "month" t = some t :=
  ⟨⟨x.y, x.m, 1⟩, rfl, dle_of_le (Nat.le_refl _) (Nat.le_refl _) hd, rfl, rfl, rfl, rfl⟩

theorem C18_trunc_quarter (x : Date) (hd : 1 ≤ x.d) (hm : 1 ≤ x.m) :
    ∃ t, dateTrunc "quarter" x = some t ∧ dle t x ∧ t.d = 1 ∧ t.y = x.y ∧ t.m ≤ x.m ∧ x.m < t.m + 3 ∧
      (t.m - 1) % 3 = 0 ∧ dateTrunc "quarter" t = some t := by
  obtain ⟨hle, hlt, hmod, hfix⟩ := floor_to_multiple x.m 1 3 (by decide)
  exact ⟨_, rfl, dle_of_le (Nat.le_refl _) hle hd, rfl, rfl, hle, hlt, hmod,
    congrArg (fun m => some (Date.mk x.y m 1)) hfix⟩

theorem C18_trunc_year (x : Date) (hd : 1 ≤ x.d) (hm : 1 ≤ x.m) :
    ∃ t, dateTrunc "year" x = some t ∧ dle t x ∧ t = ⟨x.y, 1, 1⟩ ∧ dateTrunc "year" t = some t :=
  ⟨⟨x.y, 1, 1⟩, rfl, dle_of_le (Nat.le_refl _) hm hd, rfl, rfl⟩

theorem C18_trunc_decade (x : Date) (hd : 1 ≤ x.d) (hm : 1 ≤ x.m) :
    ∃ t, dateTrunc "decade" x = some t ∧ dle t x ∧ t.y % 10 = 0 ∧ x.y < t.y + 10 ∧ dateTrunc "decade" t = some t :=
  ⟨_, rfl, trunc_years x 0 10 (by decide) hd hm⟩

theorem C18_trunc_century (x : Date) (hd : 1 ≤ x.d) (hm : 1 ≤ x.m) (hy : 1 ≤ x.y) :
    ∃ t, dateTrunc "century" x = some t ∧ dle t x ∧ (t.y - 1) % 100 = 0 ∧ x.y < t.y + 100 ∧
      dateTrunc "century" t = some t :=
  ⟨_, rfl, trunc_years x 1 100 (by decide) hd hm⟩

theorem C18_trunc_millennium (x : Date) (hd : 1 ≤ x.d) (hm : 1 ≤ x.m) (hy : 1 ≤ x.y) :
    ∃ t, dateTrunc "millennium" x = some t ∧ dle t x ∧ (t.y - 1) % 1000 = 0 ∧ x.y < t.y + 1000 ∧
      dateTrunc "millennium" t = some t :=
  ⟨_, rfl, trunc_years x 1 1000 (by decide) hd hm⟩

/-- truncation to month / year is monotone -/
theorem C18_trunc_month_monotone (a b : Date) (h : dle a b) :
    dle ⟨a.y, a.m, 1⟩ ⟨b.y, b.m, 1⟩ := by
  unfold dle at *; dsimp only at *; omega

theorem C18_trunc_year_monotone (a b : Date) (h : dle a b) : dle ⟨a.y, 1, 1⟩ ⟨b.y, 1, 1⟩ := by
  unfold dle at *; dsimp only at *; omega

/-- `date_part` of year, month, quarter and decade as functions of the year and the month that the
    truncations keep; the ISO weekday is the weekday plus one -/
theorem C18_parts_agree (x : Date) :
    datePart "year" x = some (x.y : Int) ∧ datePart "month" x = some (x.m : Int) ∧
    datePart "quarter" x = some (((x.m : Int) - 1) / 3 + 1) ∧
    datePart "decade" x = some ((x.y : Int) / 10) ∧
    datePart "isoweekday" x = (datePart "weekday" x).map (· + 1) :=
  ⟨rfl, rfl, rfl, rfl, rfl⟩

theorem C18_unknown_field (x : Date) : dateTrunc "fortnight" x = none ∧ datePart "fortnight" x = none :=
  ⟨rfl, rfl⟩

/-- ordinals of the range denote valid dates and convert back -/
theorem C18_ord_roundtrip (n : Nat) (h1 : loOrd ≤ n) (h2 : n < hiOrd) :
    (Date.fromOrd n).toOrd = n ∧ (Date.fromOrd n).valid = true := by
  unfold loOrd at h1; unfold hiOrd at h2
  exact ⟨toOrd_fromOrd n (by omega), fromOrd_valid n (by omega) (by unfold maxOrd; omega)⟩

/-- every valid date of the range is reproduced from its ordinal -/
theorem C18_ymd_roundtrip (d : Date) (hv : d.valid = true) (hy1 : 1900 ≤ d.y) (hy2 : d.y ≤ 2100) :
    Date.fromOrd d.toOrd = d :=
  fromOrd_toOrd d (proper_of_valid hv)

/-- `date_diff` undoes `date_add` (and `date - date` undoes `date + n`) -/
theorem C18_add_diff_inverse (d : Date) (k : Int) (hv : d.valid = true) (hy1 : 1900 ≤ d.y) (hy2 : d.y ≤ 2100)
    (h1 : (loOrd : Int) ≤ d.toOrd + k) (h2 : (d.toOrd : Int) + k < hiOrd) :
    ∃ r, d.addDays k = some r ∧ r.diffDays d = k ∧ r.valid = true := by
  obtain ⟨r, hr, ho, hrv⟩ := addDays_spec d k (by unfold loOrd at h1; omega) (by unfold hiOrd at h2; unfold maxOrd; omega)
  exact ⟨r, hr, by unfold Date.diffDays; omega, hrv⟩

/-- subtracting the difference gets back: `(a - b)` days added to `b` is `a` -/
theorem C18_diff_add_inverse (a b : Date) (hva : a.valid = true) (hvb : b.valid = true)
    (ha1 : 1900 ≤ a.y) (ha2 : a.y ≤ 2100) (hb1 : 1900 ≤ b.y) (hb2 : b.y ≤ 2100) :
    b.addDays (a.diffDays b) = some a :=
  addDays_diffDays a b hva

/-- `date_trunc('week', d)` is the Monday of d's week: a Monday, not after d, less than 7 days before -/
theorem C18_trunc_week (d : Date) (hv : d.valid = true) (hy1 : 1901 ≤ d.y) (hy2 : d.y ≤ 2100) :
    ∃ t, dateTrunc "week" d = some t ∧ t.weekday = 0 ∧ t.toOrd ≤ d.toOrd ∧ d.toOrd < t.toOrd + 7 ∧
      dateTrunc "week" t = some t :=
  dateTrunc_week d hv

/-- the weekday function agrees with the ISO calendar over the range -/
theorem C18_iso_consistent (n : Nat) (h1 : loOrd ≤ n) (h2 : n < hiOrd) :
    let d := Date.fromOrd n
    1 ≤ d.isocalendar.2.1 ∧ d.isocalendar.2.1 ≤ 53 ∧ d.isocalendar.2.2 = d.weekday + 1 ∧
    isoWeek1Monday d.isocalendar.1 + ((d.isocalendar.2.1 : Int) - 1) * 7 + ((d.isocalendar.2.2 : Int) - 1) = (n : Int) := by
  have hn : 1 ≤ n := by unfold loOrd at h1; omega
  have h := isocalendar_spec (fromOrd_spec n hn).2
  rwa [toOrd_fromOrd n hn] at h

/-- `date_bin` with a stride of k > 0 days returns the start of the stride-aligned bin that
    contains the date: origin + q*k <= source < origin + (q+1)*k -/
theorem C18_date_bin_days (k : Int) (hk : 0 < k) (source origin : Date) :
    let diff := source.diffDays origin
    let start : Int := origin.toOrd + (diff - diff % k)
    dateBin 0 0 k source origin = (origin.addDays (diff - diff % k)).map some ∧
    start ≤ source.toOrd ∧ (source.toOrd : Int) < start + k ∧ (start - origin.toOrd) % k = 0 := by
  intro diff start
  have hm := Int.emod_nonneg diff (Int.ne_of_gt hk)
  have hlt := Int.emod_lt_of_pos diff hk
  have hd : diff = source.toOrd - origin.toOrd := rfl
  refine ⟨by simp [dateBin, Int.not_le.2 hk, diff], by omega, by omega, ?_⟩
  show ((origin.toOrd : Int) + (diff - diff % k) - origin.toOrd) % k = 0
  rw [Int.add_comm, Int.add_sub_cancel, Int.sub_emod, Int.emod_emod, Int.sub_self, Int.zero_emod]

/-- non-positive strides give NULL -/
theorem C18_date_bin_nonpositive (k : Int) (hk : k ≤ 0) (s o : Date) : dateBin 0 0 k s o = some none := by
  simp [dateBin, hk]

theorem C18_interval_normalised (y m d : Int) :
    (fixInterval y m d).2.1.natAbs ≤ 11 ∧ (fixInterval y m d).1 * 12 + (fixInterval y m d).2.1 = y * 12 + m ∧
      (fixInterval y m d).2.2 = d := by
  unfold fixInterval
  split
  · -- more than eleven months: quotient and remainder of |m| by 12, with the sign of m put back on both
    split <;> exact ⟨by dsimp only; omega, by dsimp only; omega, rfl⟩
  · exact ⟨by dsimp only; omega, rfl, rfl⟩

theorem C18_interval_parse :
    parseInterval "3 days" = some (0, 0, 3) ∧ parseInterval "-1 month" = some (0, -1, 0) ∧
    parseInterval "14 months" = some (1, 2, 0) ∧ parseInterval "2  years" = some (2, 0, 0) ∧
    parseInterval "1day" = none ∧ parseInterval "1 week" = none ∧ parseInterval "x days" = none := by
  decide +kernel

/-- decomposition laws on component lists (`split(':')` / `join(':')` of the account name) -/
theorem C18_parent_leaf (comps : List String) (h : comps ≠ []) :
    comps.dropLast ++ [comps.getLast h] = comps :=
  List.dropLast_concat_getLast h

theorem C18_root_prefix (comps : List String) (n : Nat) :
    pySlice comps 0 n = comps.take n :=
  pySlice_nat comps 0 n

/-- the sign is 1 for Assets and Expenses, -1 for the credit-normal Liabilities, Equity and Income: one account of each type -/
theorem C18_possign :
    accountSign defaultAccountTypes "Assets:Cash" = 1 ∧ accountSign defaultAccountTypes "Expenses:Food" = 1 ∧
    accountSign defaultAccountTypes "Liabilities:Card" = -1 ∧ accountSign defaultAccountTypes "Equity:Opening" = -1 ∧
    accountSign defaultAccountTypes "Income:Salary" = -1 := by decide +kernel

theorem C18_possign_flips (x : Dec) (acc : String) :
    possignDec defaultAccountTypes x acc = (if accountSign defaultAccountTypes acc = 1 then x else Dec.neg x) := by
  have h : accountSign defaultAccountTypes acc = 1 ∨ accountSign defaultAccountTypes acc = -1 := by
    simp only [accountSign]; split <;> simp
  unfold possignDec
  rcases h with h | h <;> simp [h]

theorem C18_sortkey_examples :
    accountSortkey defaultAccountTypes "Assets:Cash" = some "0-Assets:Cash" ∧
    accountSortkey defaultAccountTypes "Income:Salary" = some "3-Income:Salary" ∧
    accountSortkey defaultAccountTypes "Foo:Bar" = none := by decide +kernel

/-- `substr` is the Python slice: inside bounds it is drop/take -/
theorem C18_substr_inbounds {α : Type} (xs : List α) (a b : Nat) (hab : a ≤ b) (hb : b ≤ xs.length) :
    pySlice xs a b = (xs.drop a).take (b - a) :=
  pySlice_nat xs a b

/-- negative indexes count from the end -/
theorem C18_substr_negative {α : Type} (xs : List α) (a : Nat) (ha : a ≤ xs.length) (hpos : 0 < a) :
    pySlice xs (-(a : Int)) xs.length = xs.drop (xs.length - a) := by
  rw [pySlice_eq, pyNorm_neg _ a hpos, pyNorm_nat, Nat.min_self]
  exact List.take_of_length_le (by simp)

theorem C18_slice_length {α : Type} (xs : List α) (a b : Int) : (pySlice xs a b).length ≤ xs.length := by
  rw [pySlice_eq, List.length_take, List.length_drop]
  exact Nat.le_trans (Nat.min_le_right _ _) (Nat.sub_le _ _)

theorem C18_joinstr (xs : List String) : joinstr xs = ",".intercalate xs := rfl

theorem C18_abs_nonneg (d : Dec) : 0 ≤ (decAbs d).coef ∧ decAbs (decAbs d) = decAbs d := by
  unfold decAbs
  refine ⟨Int.natCast_nonneg _, ?_⟩
  simp

theorem C18_neg_involutive (d : Dec) : Dec.neg (Dec.neg d) = d := by
  cases d; simp [Dec.neg]

theorem C18_safediv_zero (x y : Dec) (hy : y.coef = 0) : safediv x y = ⟨0, 0⟩ := by
  simp [safediv, Dec.isZero, hy]

/-- `round(x, n)` is a decimal with exactly n fractional digits (exponent -n) -/
theorem C18_round_exponent (d : Dec) (n : Int) : (d.roundTo n).exp = -n := by
  unfold Dec.roundTo
  by_cases h : d.exp ≥ -n <;> simp [h]

/-- rounding is exact when there is nothing to round -/
theorem C18_round_exact (d : Dec) (n : Int) (h : -n ≤ d.exp) :
    (d.roundTo n).coef = d.coef * pow10 (d.exp + n) := by
  unfold Dec.roundTo
  have : d.exp - -n = d.exp + n := by omega
  simp [h, this]

/-- the half-even rule of `Dec.roundTo`, stated by itself for a magnitude `c` and a unit `p`: it errs by at most half a unit -/
theorem C18_round_error (c : Nat) (p : Nat) (hp : 0 < p) :
    let q := c / p
    let r := c % p
    let q' := if 2 * r > p || (2 * r == p && q % 2 == 1) then q + 1 else q
    2 * (if q' * p ≥ c then q' * p - c else c - q' * p) ≤ p := by
  simp only
  have hr := Nat.mod_lt c hp
  have hc := Nat.div_add_mod c p
  generalize c / p = q at hc ⊢
  generalize c % p = r at hc hr ⊢
  subst hc
  split
  · -- rounded up to p * q + p: then p ≤ 2 * r
    rename_i h
    simp only [Bool.or_eq_true, decide_eq_true_eq, Bool.and_eq_true, beq_iff_eq] at h
    rw [Nat.add_mul, Nat.one_mul, Nat.mul_comm q p]
    split <;> omega
  · -- rounded down to p * q: then 2 * r ≤ p
    rename_i h
    simp only [Bool.or_eq_true, decide_eq_true_eq, not_or] at h
    rw [Nat.mul_comm q p]
    split <;> omega

def scalar : Value → Bool
  | .null | .int _ | .dec _ | .str _ | .date _ | .bool _ => true
  | _ => false

/-- casts return a value, never an error -/
theorem C18_casts_total (v : Value) :
    (∃ r, semFunc "int" [v] = .ok r) ∧ (∃ r, semFunc "decimal" [v] = .ok r) ∧
    (∃ r, semFunc "date" [v] = .ok r) ∧ (∃ r, semFunc "bool" [v] = .ok r) := by
  cases v <;> exact ⟨⟨_, rfl⟩, ⟨_, rfl⟩, ⟨_, rfl⟩, ⟨_, rfl⟩⟩

theorem C18_str_total (v : Value) (h : scalar v = true) (hn : v ≠ .null) : ∃ s, semFunc "str" [v] = .ok (.str s) := by
  cases v with
  | null => exact absurd rfl hn
  | int _ | dec _ | str _ | date _ | bool _ => exact ⟨_, rfl⟩
  | _ => cases h

/-- casts of unconvertible strings give NULL -/
theorem C18_cast_examples :
    semFunc "int" [.str "12"] = .ok (.int 12) ∧ semFunc "int" [.str "abc"] = .ok .null ∧
    semFunc "decimal" [.str "1.50"] = .ok (.dec ⟨150, -2⟩) ∧ semFunc "decimal" [.str "x"] = .ok .null ∧
    semFunc "date" [.str "2020-02-29"] = .ok (.date ⟨2020, 2, 29⟩) ∧ semFunc "date" [.str "2021-02-29"] = .ok .null ∧
    semFunc "date" [.int 2020, .int 2, .int 30] = .ok .null :=
  ⟨rfl, rfl, rfl, rfl, rfl, rfl, rfl⟩

/-! ### maxwidth(x, n) = `textwrap.shorten(x, width=n)` (texts without hyphens) -/

/-- a width the placeholder `[...]` does not fit in is an error (ValueError), whatever the text -/
theorem C18_maxwidth_narrow (text : List Char) (n : Int) (h : n < 5) : shorten text n = none := by
  simp [shorten, h]

/-- **the result never exceeds the width**, for every text -/
theorem C18_maxwidth_bound (text : List Char) (n : Int) (h : 5 ≤ n) :
    ∃ r, shorten text n = some r ∧ (r.length : Int) ≤ n := by
  refine ⟨_, shorten_eq text n h, ?_⟩
  have := shortenLine_le n.toNat (by omega) (shortenChunks (splitWords text))
  omega

/-- **a text that fits is returned with its white space normalised and nothing else changed**: the words of `x.split()`
    joined by single blanks -/
theorem C18_maxwidth_fits (text : List Char) (n : Int) (h : 5 ≤ n)
    (hfit : ((shortenChunks (splitWords text)).flatten.length : Int) ≤ n) :
    shorten text n = some (shortenChunks (splitWords text)).flatten := by
  rw [shorten_eq text n h,
    shortenLine_fits n.toNat (splitWords text) (splitWords_good text) (by rw [← totalLen_flatten]; omega)]

/-- **the shape of every result**: empty, the bare placeholder `[...]`, or a prefix of the chunks of the normalised text (words
    and single blanks; the last chunk possibly cut, when a word alone is wider than asked), with or without ` [...]`
    after it.  Nothing is ever invented or reordered. -/
theorem C18_maxwidth_shape (text : List Char) (n : Int) (h : 5 ≤ n) :
    ∃ r, shorten text n = some r ∧
      (r = [] ∨ r = "[...]".toList ∨
        ∃ pre, CutPrefix pre (shortenChunks (splitWords text)) ∧ (r = pre.flatten ∨ r = pre.flatten ++ shortenPlaceholder)) :=
  ⟨_, shorten_eq text n h, shortenLine_shape n.toNat (shortenChunks (splitWords text))⟩

/-- the words are non-empty and free of white space (what `str.split()` returns) -/
theorem C18_split_words (text : List Char) : ∀ wd ∈ splitWords text, wd ≠ [] ∧ ∀ c ∈ wd, isWs c = false :=
  splitWords_good text

/-- `subst`: where the pattern does not occur, nothing changes -/
theorem C18_subst_absent (p r s : List Char) (h : containsL p s = false) : substGo p r 0 s = s := by
  induction s with
  | nil => rfl
  | cons c cs ih =>
    simp only [containsL, Bool.or_eq_false_iff] at h
    simp only [substGo, h.1, Bool.false_eq_true, if_false, ih h.2]

/-- `subst` of a one-character pattern replaces exactly the occurrences of that character, all of them -/
theorem C18_subst_char (a : Char) (r s : List Char) :
    substGo [a] r 0 s = (s.map (fun c => if a == c then r else [c])).flatten := by
  induction s with
  | nil => rfl
  | cons c cs ih =>
    simp only [substGo, isPrefixL, List.length_singleton, Nat.sub_self, ih, List.map_cons, List.flatten_cons]
    cases hc : a == c <;> simp

theorem C18_subst_examples :
    substGo "la".toList "LA".toList 0 "lala land la".toList = "LALA LAnd LA".toList
    ∧ substGo "aa".toList "b".toList 0 "aaaaa".toList = "bba".toList
    ∧ substGo ":".toList "/".toList 0 "Assets:A:B:C".toList = "Assets/A/B/C".toList := by decide +kernel

theorem C18_maxwidth_examples :
    shorten "lunch with the team".toList 12 = some "lunch [...]".toList ∧
    shorten "  lunch \t with  ".toList 12 = some "lunch with".toList ∧
    shorten "supercalifragilistic".toList 8 = some "[...]".toList ∧
    shorten "ab supercalifragilistic".toList 10 = some "ab [...]".toList ∧
    shorten "abc".toList 4 = none ∧ shorten "".toList 5 = some [] := by
  decide +kernel

end Bql.C18
