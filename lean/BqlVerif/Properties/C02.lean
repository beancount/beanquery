/-
  C02 — Aggregation: groups partition rows, aggregates fold each group, HAVING filters.
-/
import BqlVerif.Proofs.AggLemmas
import BqlVerif.Proofs.EvalLemmas
set_option autoImplicit false
namespace Bql.C02
open Bql.Agg

/-- **Refinement.**  Whenever the aggregation loop (allocate / `defaultdict(create)` /
    update per row) returns, the store it built is: one entry per distinct key tuple of the rows
    passing WHERE, in order of first appearance (NULL an ordinary key component), holding the
    fold of the per-row update over exactly that group's rows in source order. -/
theorem C02_refines (w : Option CExpr) (ke nodes : List CExpr) (tbl : List Row) (groups : List (Row × Store))
    (h : foldlE (aggStep w ke nodes) [] tbl = .ok groups) :
    groups = aggSpec keyEq (keyT ke) (updT nodes) (createStore nodes) (tbl.filter (whT w)) := by
  rw [aggFold_ok h]
  exact agg_refines keyEq keyEq_eqv (keyT ke) (updT nodes) (createStore nodes) _

/-- a selection with no qualifying row yields no group, hence no output row -/
theorem C02_empty (w : Option CExpr) (ke nodes : List CExpr) (tbl : List Row) (groups : List (Row × Store))
    (h : foldlE (aggStep w ke nodes) [] tbl = .ok groups) (hsel : tbl.filter (whT w) = []) : groups = [] := by
  rw [C02_refines w ke nodes tbl groups h, hsel]; rfl

theorem C02_empty_result (q : CQuery) (g : List Nat) (hsel : q.table.filter (whT q.where_) = []) (rows : List Row)
    (h : selectAgg q g = .ok rows) : rows = [] := by
  unfold selectAgg at h
  simp only at h
  split at h
  · cases h
  · rename_i groups hf
    rw [C02_empty _ _ _ _ groups hf hsel] at h
    -- no group: `emitGroups` returns `.ok []`
    exact (Except.ok.inj h).symm

/-! ### the groups form a partition of the selected rows -/

variable {R K : Type}

/-- group keys are pairwise distinct under the key equality `e` (in `C02_refines`: `keyEq`, Python tuple `==`) -/
theorem C02_keys_distinct (e : K → K → Bool) (key : R → K) (sel : List R) :
    (dedup e (sel.map key)).Pairwise (fun a b => e a b = false) := dedup_pairwise e _

/-- a group holds exactly the selected rows whose key equals the group key, in source order -/
theorem C02_group_rows (e : K → K → Bool) (key : R → K) (k : K) (sel : List R) :
    (groupOf e key k sel).Sublist sel ∧ ∀ r, r ∈ groupOf e key k sel ↔ (r ∈ sel ∧ e k (key r) = true) :=
  ⟨List.filter_sublist, fun _ => List.mem_filter⟩

/-- no group is empty -/
theorem C02_group_nonempty (e : K → K → Bool) (he : Eqv e) (key : R → K) (sel : List R) (k : K)
    (hk : k ∈ dedup e (sel.map key)) : groupOf e key k sel ≠ [] := by
  obtain ⟨r, hr, rfl⟩ := List.mem_map.mp ((dedup_sublist e _).subset hk)
  exact List.ne_nil_of_mem (List.mem_filter.mpr ⟨hr, he.refl _⟩)

/-- every selected row lies in the group of some key … -/
theorem C02_covers (e : K → K → Bool) (he : Eqv e) (key : R → K) (sel : List R) (r : R) (hr : r ∈ sel) :
    ∃ k ∈ dedup e (sel.map key), r ∈ groupOf e key k sel := by
  obtain ⟨k, hk, hkr⟩ := dedup_covers e he (sel.map key) (key r) (List.mem_map_of_mem hr)
  exact ⟨k, hk, List.mem_filter.mpr ⟨hr, hkr⟩⟩

/-- … and of only one: groups of different keys are disjoint -/
theorem C02_disjoint (e : K → K → Bool) (he : Eqv e) (key : R → K) (sel : List R) (k k' : K) (r : R)
    (h1 : r ∈ groupOf e key k sel) (h2 : r ∈ groupOf e key k' sel) : e k k' = true :=
  he.trans _ _ _ (List.mem_filter.mp h1).2 (he.symm _ _ (List.mem_filter.mp h2).2)

/-- group-wise counts add up to the ungrouped count -/
theorem C02_count_additive (e : K → K → Bool) (he : Eqv e) (key : R → K) (sel : List R) :
    (((dedup e (sel.map key)).map (fun k => ((groupOf e key k sel).length : Int)))).sum = (sel.length : Int) := by
  have h := group_sums_add_up e he key (fun _ => (1 : Int)) sel
  simp only [List.map_const', List.sum_replicate_int] at h
  simpa using h

/-- group-wise sums add up to the ungrouped total -/
theorem C02_sum_additive (e : K → K → Bool) (he : Eqv e) (key : R → K) (f : R → Int) (sel : List R) :
    (((dedup e (sel.map key)).map (fun k => ((groupOf e key k sel).map f).sum))).sum = (sel.map f).sum :=
  group_sums_add_up e he key f sel

/-! ### what each aggregate function folds to (over the group's operand values in source order) -/

/-- fold of one aggregator over the evaluated operands of a group -/
def foldAgg (k : AggKind) : Value → List Value → PyResult
  | cur, [] => .ok cur
  | cur, v :: vs => match aggUpdate k cur v with
    | .error x => .error x
    | .ok cur' => foldAgg k cur' vs

theorem C02_fold_count_star (vals : List Value) (n : Int) :
    foldAgg .countStar (.int n) vals = .ok (.int (n + vals.length)) := by
  induction vals generalizing n with
  | nil => simp [foldAgg]
  | cons v vs ih => simp [foldAgg, aggUpdate, pyAdd, ih]; omega

theorem C02_fold_count (vals : List Value) (n : Int) :
    foldAgg .count (.int n) vals = .ok (.int (n + vals.countP (fun v => !v.isNull))) := by
  induction vals generalizing n with
  | nil => simp [foldAgg]
  | cons v vs ih =>
    cases hv : v.isNull
    · simp [foldAgg, aggUpdate, pyAdd, hv, ih]; omega
    · simp [foldAgg, aggUpdate, hv, ih]

def intOf : Value → Int | .int i => i | _ => 0

/-- `sum` over an int column adds the non-NULL values to the running total -/
theorem C02_fold_sum_int (vals : List Value) (n : Int) (hint : ∀ v ∈ vals, v = .null ∨ ∃ i, v = .int i) :
    foldAgg .sum (.int n) vals = .ok (.int (n + (vals.map intOf).sum)) := by
  induction vals generalizing n with
  | nil => simp [foldAgg]
  | cons v vs ih =>
    have ih' := fun m => ih m (fun x hx => hint x (List.mem_cons_of_mem _ hx))
    rcases hint v (List.mem_cons_self ..) with rfl | ⟨i, rfl⟩
    · simp [foldAgg, aggUpdate, Value.isNull, ih', intOf]
    · simp [foldAgg, aggUpdate, Value.isNull, pyAdd, ih', intOf]; omega

/-- `first` returns the first non-NULL value (NULL if there is none) -/
theorem C02_fold_first (vals : List Value) :
    foldAgg .first .null vals = .ok ((vals.find? (fun v => !v.isNull)).getD .null) := by
  have stay : ∀ (c : Value) (vs : List Value), c.isNull = false → foldAgg .first c vs = .ok c := by
    intro c vs hc
    induction vs with
    | nil => simp [foldAgg]
    | cons v vs ih => simp [foldAgg, aggUpdate, hc, ih]
  have t0 : (Value.null).isNull = true := rfl
  induction vals with
  | nil => simp [foldAgg]
  | cons v vs ih =>
    cases hv : v.isNull
    · simp only [foldAgg, aggUpdate, t0, ↓reduceIte, stay v vs hv, List.find?_cons, hv, Bool.not_false,
        Option.getD_some]
    · cases Value.eq_null_of_isNull hv
      simp only [foldAgg, aggUpdate, t0, ↓reduceIte, ih, List.find?_cons, Bool.not_true]

/-- `last` returns the last value of the group (NULL included) -/
theorem C02_fold_last (vals : List Value) (c : Value) :
    foldAgg .last c vals = .ok (vals.getLast?.getD c) := by
  induction vals generalizing c with
  | nil => rfl
  | cons v vs ih => simp only [foldAgg, aggUpdate, ih, List.getLast?_cons, Option.getD_some]

/-- `min` / `max` ignore NULLs -/
theorem C02_fold_min_skips_null (vals : List Value) (c : Value) :
    foldAgg .min c (.null :: vals) = foldAgg .min c vals := by
  simp [foldAgg, aggUpdate, Value.isNull]

theorem C02_fold_max_skips_null (vals : List Value) (c : Value) :
    foldAgg .max c (.null :: vals) = foldAgg .max c vals := by
  simp [foldAgg, aggUpdate, Value.isNull]

/-- `min` keeps the smaller of the running value and the next non-NULL operand -/
theorem C02_fold_min_step (c v : Value) (vals : List Value) (hc : c.isNull = false) (hv : v.isNull = false) (b : Bool)
    (hlt : pyLt? v c = some b) :
    foldAgg .min c (v :: vals) = foldAgg .min (if b then v else c) vals := by
  cases b <;> simp [foldAgg, aggUpdate, hc, hv, hlt]

theorem C02_fold_max_step (c v : Value) (vals : List Value) (hc : c.isNull = false) (hv : v.isNull = false) (b : Bool)
    (hlt : pyLt? c v = some b) :
    foldAgg .max c (v :: vals) = foldAgg .max (if b then v else c) vals := by
  cases b <;> simp [foldAgg, aggUpdate, hc, hv, hlt]

/-! ### HAVING -/

/-- a group whose HAVING value is falsy (FALSE, NULL, 0) produces no output row; the others
    produce exactly one, in group order -/
theorem C02_having (q : CQuery) (g : List Nat) (nodes : List CExpr) (last : Row) (key : Row) (s : Store)
    (rest : List (Row × Store)) (h : Nat) (vs : Row) (more : List Row) (hh : q.havingIdx = some h)
    (hb : buildRow (finalize nodes s) last g q.targets 0 key = .ok vs)
    (hm : emitGroups q g nodes last rest = .ok more) :
    emitGroups q g nodes last ((key, s) :: rest) =
      .ok (if (vs.getD h .null).truthy then vs :: more else more) := by
  simp only [emitGroups, hb, hm, hh]
  split <;> rfl

/-! ### non-vacuity: two groups, one with a NULL key, interleaved in source order -/

def exQ : CQuery :=
  { table := [[.str "a", .int 1], [.null, .int 5], [.str "a", .null], [.null, .int 7]],
    targets := [⟨.col 0 "s" .str, some "s", false⟩,
                ⟨.agg .sum "sum" [.col 1 "i" .int] .int 0, some "t", true⟩,
                ⟨.agg .countStar "count" [.const .null .asterisk] .int 1, some "n", true⟩],
    where_ := none, groupIdx := some [0], havingIdx := none, orderSpec := none, limit := none, distinct := false }

example : selectAgg exQ [0] = .ok [[.str "a", .int 1, .int 2], [.null, .int 12, .int 2]] := by rfl

end Bql.C02
