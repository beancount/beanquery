/-
  C07 — Result shape and naming: only the selected targets, in order, named by rule.
-/
import BqlVerif.Proofs.CompileLemmas
import BqlVerif.Proofs.ExecLemmas
set_option autoImplicit false
namespace Bql.C07

/-- naming rule: AS alias, else the column name of a bare column, else the source text -/
theorem C07_name_alias (e : Expr) (a text : String) : targetName (.mk e (some a) text) = .ok a := rfl
theorem C07_name_column (n text : String) : targetName (.mk (.col n) none text) = .ok n := rfl
theorem C07_name_text (e : Expr) (text : String) (hcol : ∀ n, e ≠ .col n) (ht : text ≠ "") :
    targetName (.mk e none text) = .ok text := by
  -- `hcol` is the side condition of the equation of `targetName` for an expression that is no column
  rw [targetName, if_neg (by simpa using ht)]
  exact hcol

/-- compiled SELECT-list targets: one per target, in order, named by the rule -/
theorem C07_targets_named (ctx : Ctx) (tbl : TableDef) (subq : Select → CM SubResult) (ts : List Target)
    (h h' : Nat) (cts : List CTarget) (hc : compileTargets ctx tbl subq ts h = .ok (cts, h')) :
    cts.map (·.name) = ts.map (fun t => (targetName t).toOption) ∧ cts.length = ts.length := by
  induction ts generalizing h h' cts with
  | nil => cases hc; exact ⟨rfl, rfl⟩
  | cons t rest ih =>
    -- every step of `compileTargets` succeeded: the second gives the name, the last the rest of the list
    simp only [compileTargets] at hc
    split at hc
    · cases hc
    split at hc
    · cases hc
    split at hc
    · cases hc
    split at hc
    · cases hc
    cases hc
    simp [ih _ _ _ ‹compileTargets ctx tbl subq rest _ = _›, ‹targetName t = _›, Except.toOption]

/-- `*` expands to the table's wildcard columns, in declaration order, each named by itself -/
theorem C07_wildcard (tbl : TableDef) :
    (wildcardTargets tbl).map (fun t => (targetName t).toOption) = tbl.wildcard.map some := by
  simp [wildcardTargets, targetName, Except.toOption, Function.comp_def]

/-- GROUP BY resolution only ever *appends* hidden targets -/
theorem C07_group_appends (nvis : Nat) (vis ts ts' : List CTarget) (k : CKey) (u : CM CExpr) (i : Nat)
    (h : resolveGroupKey nvis vis ts k u = .ok (ts', i)) :
    ∃ extra, ts' = ts ++ extra ∧ extra.all (fun t => t.name.isNone) = true :=
  (resolveGroupKey_ok h).1

/-- ORDER BY resolution only ever *appends* hidden targets -/
theorem C07_order_appends (nt : Nat) (named ts ts' : List CTarget) (k : CKey) (u : CM CExpr) (i : Nat)
    (h : resolveOrderKey nt named ts k u = .ok (ts', i)) :
    ∃ extra, ts' = ts ++ extra ∧ extra.all (fun t => t.name.isNone) = true :=
  resolveOrderKey_ok h

/-- The description lists exactly the visible targets, in order: appending hidden targets
    never changes it. -/
theorem C07_description_ignores_hidden (q : CQuery) (vis hid : List CTarget) (hq : q.targets = vis ++ hid)
    (hh : hid.all (fun t => t.name.isNone) = true) :
    q.description = vis.filterMap (fun t => t.name.map (fun n => (n, t.expr.ty))) := by
  have : hid.filterMap (fun t => t.name.map (fun n => (n, t.expr.ty))) = [] :=
    List.filterMap_eq_nil_iff.mpr fun t ht => by rw [Option.isNone_iff_eq_none.mp (List.all_eq_true.mp hh t ht)]; rfl
  rw [CQuery.description, hq, List.filterMap_append, this, List.append_nil]

/-- **Row width**: every result row has one cell for each visible target index (and so, by
    `C07_indexes_eq_description`, for each described column when no visible name is empty) -/
theorem C07_width (q : CQuery) (rows : List Row) :
    ∀ r ∈ finishRows q rows, r.length = (resultIndexes q.targets).length := by
  intro r hr
  obtain ⟨_, _, rfl⟩ := mem_finishRows hr
  exact List.length_map _

/-- every cell of a result row is the value of a *visible* target: the row is a projection
    of a full row to the visible indexes, so hidden helper values cannot leak -/
theorem C07_no_leak (q : CQuery) (rows : List Row) :
    ∀ r ∈ finishRows q rows, ∃ full ∈ orderedRows q rows, r = project (resultIndexes q.targets) full :=
  fun _ hr => mem_finishRows hr

/-- when every visible name is non-empty (guaranteed by the naming rule for parsed statements),
    the number of projected indexes is the number of described columns -/
theorem C07_indexes_eq_description (ts : List CTarget) (hne : ∀ t ∈ ts, t.name ≠ some "") :
    (resultIndexes ts).length = (ts.filterMap (fun t => t.name.map (fun n => (n, t.expr.ty)))).length :=
  visibleIdx_length ts 0 hne

/-! ### non-vacuity -/
example : targetName (.mk (.binop .add (.col "i") (.const (.int 1))) none "i + 1") = .ok "i + 1" := rfl

end Bql.C07
