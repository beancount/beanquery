/-
  C04 — Type soundness: announced datatypes are truthful; accepted queries run type-safe.
-/
import BqlVerif.Proofs.TypingLemmas
import BqlVerif.Proofs.CompileLemmas
set_option autoImplicit false
namespace Bql.C04

/-- **Progress + preservation for binary operators**: on non-NULL operands conforming to the
    static operand types, the operator returns a value of the type the model's typing table
    gives (or NULL), and never raises a type error. -/
theorem C04_sem_sound_binop (op : BinOp) (ta tb t : Ty) (a b : Value)
    (ht : semOutTy op ta tb = some t)
    (ha : a.hasTy ta = true) (hb : b.hasTy tb = true) (hna : a.isNull = false) (hnb : b.isNull = false) :
    match semBin op a b with
    | .ok v => v.hasTy t = true
    | .error e => benignError e = true := by
  have sa := shape_of_hasTy a ta ha hna
  have sb := shape_of_hasTy b tb hb hnb
  unfold semOutTy at ht
  -- one goal for each row of the typing table: the operands are constructor terms there and `semBin` computes, to a
  -- value of the type, to a date or an overflow, or (division, modulo) to NULL for a zero divisor and a value otherwise
  split at ht <;> cases ht <;> obtain ⟨x, rfl⟩ := sa <;> obtain ⟨y, rfl⟩ := sb <;>
    first | rfl | exact dateRes_sound _ | exact conf_ite (fun _ => rfl) fun _ => rfl

theorem C04_sem_sound_unop (op : UnOp) (ta t : Ty) (a : Value)
    (ht : semUnOutTy op ta = some t) (ha : a.hasTy ta = true) (hn : op = .neg → a.isNull = false) :
    match semUn op a with
    | .ok v => v.hasTy t = true
    | .error e => benignError e = true := by
  unfold semUnOutTy at ht
  -- NOT, IS NULL, IS NOT NULL return a bool whatever the operand is; negation needs its constructor
  split at ht <;> cases ht <;> first | rfl | (obtain ⟨x, rfl⟩ := shape_of_hasTy a _ ha (hn rfl); rfl)

/-- BETWEEN on comparable operands returns a bool and never raises -/
theorem C04_sem_sound_between (x lo hi : Value) (cls : Nat)
    (hx : classRank x = cls) (hlo : classRank lo = cls) (hhi : classRank hi = cls) (hc : 1 ≤ cls ∧ cls ≤ 3) :
    ∃ r, semBetween x lo hi = .ok (.bool r) :=
  semBetween_comparable x lo hi cls hx hlo hhi hc

/-- a generated operator overload is *checked* when all its operand types are modelled -/
def checkedBinop (d : Decl) : Bool :=
  d.kind == .binop && d.intypes.length == 2 && d.intypes.all modelledTy &&
    (binOpOfClass d.name).isSome && d.name != "In" && d.name != "NotIn"

/-- **Every binary operator overload the code registers over modelled types declares exactly the
    type its semantics returns.**  Re-checked by `decide` over the registry regenerated from the
    code on every run: changing a declared output type in `query_compile.py` breaks this. -/
theorem C04_registry_agrees_binop :
    (Gen.operators.filter checkedBinop).all (fun d =>
      match binOpOfClass d.name, d.intypes with
      | some op, [ta, tb] => semOutTy op ta tb == some (d.outTy [ta, tb])
      | _, _ => false) = true := by
  decide +kernel

theorem C04_registry_agrees_unop :
    (Gen.operators.filter (fun d => d.kind == .unopSafe || d.kind == .unopRaw)).all (fun d =>
      match unOpOfClass d.name, d.intypes with
      | some op, [.any] => semUnOutTy op .obj == some (d.outTy [.obj])
      | some op, [ta] => semUnOutTy op ta == some (d.outTy [ta])
      | _, _ => false) = true := by
  decide +kernel

/-- the BETWEEN, IN and NOT IN overloads announce bool -/
theorem C04_registry_bool_ops :
    (Gen.operators.filter (fun d => d.kind == .between || d.name == "In" || d.name == "NotIn")).all
      (fun d => d.out == .fixed .bool) = true := by
  decide +kernel

/-- closed world: every registered operator class is one the model knows -/
theorem C04_closed_world_operators :
    Gen.operators.all (fun d => (binOpOfClass d.name).isSome || (unOpOfClass d.name).isSome || d.name == "Between") = true := by
  decide +kernel

/-- aggregates: count is int; sum over int/decimal keeps its type; first/last/min/max keep the
    operand type (values are operand values) -/
theorem C04_registry_aggregates :
    (Gen.functions.filter (fun d => d.kind == .aggregate)).all (fun d =>
      match d.name, d.intypes with
      | "count", _ => d.out == .fixed .int
      | "sum", [.int] => d.out == .fixed .int
      | "sum", [.dec] => d.out == .arg0 || d.out == .fixed .dec
      | "sum", _ => d.out == .fixed .inventory
      | _, _ => d.out == .arg0) = true := by
  decide +kernel

mutual
/-- **Preservation + progress** for expression trees built from typed columns, constants, unary and binary operators,
    BETWEEN, AND, OR and COALESCE: the value is NULL or an instance of the announced datatype (AND / OR / BETWEEN
    announce bool whatever the operand types are), and no type error is raised. -/
theorem C04_preservation (env : AggEnv) (row : Row) :
    (e : CExpr) → wellTyped e = true → rowConforms e row → Conf e.ty (eval env row e)
  | .const v ty, hw, _ => by simpa only [wellTyped, eval, Conf, CExpr.ty] using hw
  | .col i n ty, _, hr => by simpa only [rowConforms, eval, Conf, CExpr.ty] using hr
  | .binop op l r ty, hw, hr => by
    simp only [wellTyped, Bool.and_eq_true, beq_iff_eq] at hw
    simp only [rowConforms] at hr
    simp only [eval]
    exact .bind (C04_preservation env row l hw.1.1 hr.1) fun a ha => conf_strict fun hna =>
      .bind (C04_preservation env row r hw.1.2 hr.2) fun b hb => conf_strict fun hnb =>
        C04_sem_sound_binop op l.ty r.ty ty a b hw.2 ha hb hna hnb
  | .unop op s x ty, hw, hr => by
    simp only [wellTyped, Bool.and_eq_true, Bool.or_eq_true, beq_iff_eq, bne_iff_ne, ne_eq] at hw
    obtain ⟨⟨hwx, hsafe⟩, hty⟩ := hw
    simp only [rowConforms] at hr
    -- the second alternative of `wellTyped` is an instance of the first
    have hty : semUnOutTy op x.ty = some ty := by
      rcases hty with h | ⟨ho, h⟩
      · exact h
      · rwa [ho]
    simp only [eval]
    exact .bind (C04_preservation env row x hwx hr) fun a ha => conf_ite (fun _ => rfl) fun hsn =>
      C04_sem_sound_unop op x.ty ty a hty ha fun hneg => by
        rcases hsafe with h | h
        · exact absurd hneg h
        · simpa [h] using hsn
  | .between x lo hi, hw, hr => by
    simp only [wellTyped, Bool.and_eq_true] at hw
    simp only [rowConforms] at hr
    simp only [eval]
    exact .bind (C04_preservation env row x hw.1.1.1 hr.1) fun a ha => conf_strict fun hna =>
      .bind (C04_preservation env row lo hw.1.1.2 hr.2.1) fun b hb => conf_strict fun hnb =>
        .bind (C04_preservation env row hi hw.1.2 hr.2.2) fun c hc => conf_strict fun hnc => by
          obtain ⟨r, hr⟩ := between_sound x.ty lo.ty hi.ty a b c hw.2 ha hb hc hna hnb hnc
          rw [hr]; rfl
  | .and es, hw, hr => evalAnd_conf env row es (C04_preservationL env row es hw hr)
  | .or es, hw, hr => evalOr_conf env row es (.bool false) rfl (C04_preservationL env row es hw hr)
  | .coalesce es t, hw, hr => by
    simp only [wellTyped, Bool.and_eq_true] at hw
    exact evalCoalesce_conf env row t es (sameTyL_eq_all t es ▸ hw.2) (C04_preservationL env row es hw.1 hr)
  | .func _ _ _, hw, _ => by simp [wellTyped] at hw
  | .agg _ _ _ _ _, hw, _ => by simp [wellTyped] at hw
theorem C04_preservationL (env : AggEnv) (row : Row) :
    (es : List CExpr) → wellTypedL es = true → rowConformsL es row → ConfL env row es
  | [], _, _ => trivial
  | x :: xs, hw, hr => by
    simp only [wellTypedL, Bool.and_eq_true] at hw
    simp only [rowConformsL] at hr
    exact ⟨C04_preservation env row x hw.1 hr.1, C04_preservationL env row xs hw.2 hr.2⟩
end

/-- every BETWEEN overload of the registry REGENERATED from the code is over one comparable class -/
theorem C04_registry_between :
    (Gen.operators.filter (fun d => d.name == "Between")).all (fun d =>
      match d.intypes with
      | [a, b, c] => betweenTys a b c && a != .any && b != .any && c != .any
      | _ => false) = true := by
  decide +kernel

/-- so a BETWEEN the compiler accepts is a well-typed node -/
theorem C04_compileBetween_wellTyped (e lo hi n : CExpr) (h : compileBetween e lo hi = .ok n)
    (he : wellTyped e = true) (hl : wellTyped lo = true) (hh : wellTyped hi = true) : wellTyped n = true := by
  unfold compileBetween at h
  split at h <;> cases h
  rename_i d hlk
  obtain ⟨hmem, hname, hsig⟩ := lookupExact_mem hlk
  have hreg := List.all_eq_true.mp C04_registry_between d (List.mem_filter.mpr ⟨hmem, by simp [hname]⟩)
  -- the overload found is declared for one comparable class and, having no `Any`, for the operand types themselves
  split at hreg
  · rename_i a b c hd
    simp only [Bool.and_eq_true] at hreg
    simp only [hd, sigMatch, Bool.and_eq_true] at hsig
    have hty : betweenTys e.ty lo.ty hi.ty = true := by
      rw [← tyMatch_eq hsig.1 hreg.1.1.2, ← tyMatch_eq hsig.2.1 hreg.1.2, ← tyMatch_eq hsig.2.2.1 hreg.2]
      exact hreg.1.1.1
    simp only [wellTyped, he, hl, hh, hty, Bool.and_self]
  · cases hreg

/-- COALESCE nodes the compiler accepts have uniformly typed arguments -/
theorem C04_coalesce_wellTyped (args : List CExpr) (h : Nat) (n : CExpr) (h' : Nat)
    (hc : compileCall "coalesce" args h = .ok (n, h')) (hw : wellTypedL args = true) : wellTyped n = true := by
  unfold compileCall at hc
  simp only [beq_self_eq_true, if_true] at hc
  split at hc
  · cases hc
  · split at hc <;> cases hc
    rename_i hall
    simp only [wellTyped, hw, sameTyL_eq_all, hall, Bool.and_self]

/-- whatever overload `_binaryop` finds for operands of modelled types announces the type the semantics returns -/
theorem C04_binop_lookup_agrees :
    plainOps.all (fun op => modelledTys.all (fun ta => modelledTys.all (fun tb =>
      match lookupExact Gen.operators op.className [ta, tb] with
      | some d => semOutTy op ta tb == some (d.outTy [ta, tb])
      | none => true))) = true := by
  decide +kernel

/-- a binary operator node the compiler builds over well-typed operands of modelled types is well typed — also when
    it folds the node into a constant (the constant is a value of the announced type, by preservation) -/
theorem C04_compileBinop_wellTyped (op : BinOp) (l r n : CExpr) (h : compileBinop op l r = .ok n)
    (h1 : op ≠ .in) (h2 : op ≠ .notin)
    (hl : wellTyped l = true) (hr : wellTyped r = true) (hml : modelledTy l.ty = true) (hmr : modelledTy r.ty = true) :
    wellTyped n = true := by
  have hreg := List.all_eq_true.mp (List.all_eq_true.mp (List.all_eq_true.mp C04_binop_lookup_agrees op (mem_plainOps op h1 h2))
    l.ty (mem_modelledTys hml)) r.ty (mem_modelledTys hmr)
  simp only [compileBinop, modelledTy_ne_obj hml, modelledTy_ne_obj hmr, Bool.false_and, Bool.false_eq_true, if_false] at h
  cases hlk : lookupExact Gen.operators op.className [l.ty, r.ty] with
  | none => rw [hlk] at h; cases h
  | some d =>
    simp only [hlk, beq_iff_eq] at h hreg
    have hnode : wellTyped (.binop op l r (d.outTy [l.ty, r.ty])) = true := by
      simp only [wellTyped, hl, hr, hreg, beq_self_eq_true, Bool.and_self]
    split at h
    · -- folded: the constant is the value of the node, of the announced type by preservation
      rename_i hc
      obtain ⟨v, hev, rfl⟩ := foldConst_ok h
      simp only [Bool.and_eq_true] at hc
      have := C04_preservation [] [] _ hnode ⟨rowConforms_const l hc.1 [], rowConforms_const r hc.2 []⟩
      rwa [hev] at this
    · cases h
      exact hnode

/-! ### non-vacuity -/
example : wellTyped (.binop .add (.col 0 "i" .int) (.binop .div (.col 1 "d" .dec) (.const (.int 2) .int) .dec) .dec) = true := by rfl
example : wellTyped (.and [.col 0 "i" .int, .between (.col 1 "d" .dec) (.const (.int 1) .int) (.col 0 "i" .int),
    .coalesce [.col 2 "s" .str, .const (.str "x") .str] .str]) = true := by rfl
/-- the AND of a falsy non-boolean operand is FALSE (a bool), never the operand itself -/
example : eval [] [.int 0] (.and [.col 0 "i" .int, .const (.bool true) .bool]) = .ok (.bool false) := by rfl

end Bql.C04
