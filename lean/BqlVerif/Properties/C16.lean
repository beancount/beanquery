/-
  C16 — Text and CSV rendering are aligned, complete and faithful to the values (layout part).
-/
import BqlVerif.Proofs.RenderLemmas
set_option autoImplicit false
namespace Bql.C16
open Bql.Render

/-- a padded cell has exactly the column width whenever the value fits -/
theorem C16_cell_width (w : Nat) (right : Bool) (x : Str) (h : x.length ≤ w) : (padCell w right x).length = w := by
  rw [length_padCell, Nat.max_eq_left h]

/-- **no value is truncated**: the padded cell is the value with blanks added on one side only -/
theorem C16_no_truncation (w : Nat) (right : Bool) (x : Str) :
    ∃ pad, (padCell w right x = x ++ pad ∨ padCell w right x = pad ++ x) ∧ pad.all (· == ' ') = true := by
  cases right
  · exact ⟨spaces (w - x.length), Or.inl rfl, by simp [spaces]⟩
  · exact ⟨spaces (w - x.length), Or.inr rfl, by simp [spaces]⟩

/-- headers are centred; they are cut only when the column is narrower than the header -/
theorem C16_header (w : Nat) (h : Str) :
    (center w (h.take w)).length = w ∧
    (h.length ≤ w → ∃ l r, center w (h.take w) = spaces l ++ h ++ spaces r ∧ l + h.length + r = w ∧ (l = r ∨ l = r + 1 ∨ l + 1 = r)) := by
  refine ⟨?_, fun hl => ?_⟩
  · rw [length_center, List.length_take]; omega
  · rw [List.take_of_length_le hl]
    obtain ⟨l, r, e, hlr, hd⟩ := center_shape w h
    exact ⟨l, r, e, by omega, hd⟩

/-- **Rectangular table**: every body line made of cells that fit has the same length, which depends
    on the style and the column widths only. -/
theorem C16_rectangular (st : Style) (cells : List Str) (ws : List (Nat × Bool)) (h : cells.length = ws.length)
    (hfit : ∀ p ∈ cells.zip ws, p.1.length ≤ p.2.1) :
    (line st ((cells.zip ws).map (fun p => padCell p.2.1 p.2.2 p.1))).length =
      st.pre.length + (ws.map (·.1)).sum + (ws.length - 1) * st.sep.length + st.post.length := by
  rw [length_line, padded_lengths cells ws h hfit, List.length_map, List.length_zip, h, Nat.min_self]

/-- the rules (top, header line, bottom) have the length of the body lines in every style -/
theorem C16_rule_length (boxed unicode : Bool) (widths : List Nat) :
    let st := style boxed unicode
    (rule st.hline widths).length = st.pre.length + widths.sum + (widths.length - 1) * st.sep.length + st.post.length ∧
    (∀ r, st.top = some r → (rule r widths).length = (rule st.hline widths).length) ∧
    (∀ r, st.bottom = some r → (rule r widths).length = (rule st.hline widths).length) := by
  cases boxed <;> cases unicode <;> simp [style, length_rule]

/-- **fixed offsets**: the line is prefix ++ cell ++ suffix where the prefix length is the frame plus
    the widths and separators of the preceding columns -/
theorem C16_offsets (st : Style) (a : List Str) (c : Str) (b : List Str) :
    ∃ pre suf, line st (a ++ c :: b) = pre ++ c ++ suf ∧
      pre.length = st.pre.length + (a.map (fun x => x.length + st.sep.length)).sum := by
  refine ⟨st.pre ++ a.flatMap (· ++ st.sep), b.flatMap (st.sep ++ ·) ++ st.post, ?_, ?_⟩
  · simp [line, joinSep_split, List.append_assoc]
  · simp only [List.length_append, List.length_flatMap]

/-- in a decimal column every value is placed so that its integral part ends at offset
    `nintegral`: the decimal point of every value with a fractional part is at the same offset -/
theorem C16_decimal_aligned (nI width : Nat) (ip fp : Str) (h : ip.length ≤ nI) :
    (fmtDecParts nI width ip fp).take nI = spaces (nI - ip.length) ++ ip ∧
    ((fmtDecParts nI width ip fp).drop nI).take fp.length = fp := by
  have hl : (spaces (nI - ip.length) ++ ip).length = nI := by simp [length_spaces]; omega
  rw [fmtDecParts_eq]
  refine ⟨List.take_left' hl, ?_⟩
  rw [List.drop_left' hl]
  exact List.take_left' rfl

/-- the formatted decimal has the column width when it fits -/
theorem C16_decimal_width (nI width : Nat) (ip fp : Str) (h1 : ip.length ≤ nI) (h2 : nI + fp.length ≤ width) :
    (fmtDecParts nI width ip fp).length = width := by
  simp only [fmtDecParts_eq, List.length_append, length_spaces]
  omega

/-- a row without multi-valued cells renders to exactly one line -/
theorem C16_single_line (cells : List Cell) (h : cells.any Cell.isMany = false) : (expandRow cells).length = 1 := by
  simp [expandRow, h]

/-- a row with multi-valued cells renders to as many lines as its longest cell, each line having
    one (possibly empty) entry per column -/
theorem C16_expand (cells : List Cell) (h : cells.any Cell.isMany = true) :
    (expandRow cells).length = (cells.map (fun c => c.lines.length)).foldl max 0 ∧
    ∀ l ∈ expandRow cells, l.length = cells.length :=
  ⟨by simp [expandRow, h], expandRow_width cells⟩

/-- with spacing the rendering is one line longer for every result row -/
theorem C16_spaced (rows : List (List Cell)) (n : Nat) :
    (renderRows rows true n).length = (renderRows rows false n).length + rows.length := by
  induction rows with
  | nil => rfl
  | cons r rs ih =>
    simp only [renderRows, List.flatMap_cons, List.length_append, ↓reduceIte, List.length_cons, List.length_nil,
      List.append_nil, Bool.false_eq_true] at ih ⊢
    omega

/-- the header comes first, and every record has exactly one field per column -/
theorem C16_csv_shape (headers : List Str) (rows : List (List Cell)) (hw : ∀ r ∈ rows, r.length = headers.length) :
    (renderCsv headers rows).head? = some headers ∧ ∀ rec ∈ renderCsv headers rows, rec.length = headers.length := by
  refine ⟨rfl, ?_⟩
  intro rec hrec
  rcases List.mem_cons.mp hrec with rfl | hrec
  · rfl
  · simp only [renderRows, Bool.false_eq_true, ↓reduceIte, List.append_nil, List.mem_flatMap] at hrec
    obtain ⟨cells, hc, hmem⟩ := hrec
    rw [expandRow_width cells rec hmem, hw cells hc]

example : line (style true false) [padCell 4 false "ab".toList, padCell 3 true "7".toList] = "| ab   |   7 |".toList := by decide +kernel
example : center 6 "abc".toList = " abc  ".toList ∧ center 7 "ab".toList = "   ab  ".toList := by decide +kernel

end Bql.C16
