/-
  `maxwidth` = `textwrap.shorten` (Model/Funcs.lean), for C18: the line never exceeds the width (`shortenLine_le`), a text
  that fits is only normalised (`shortenLine_fits`, over the words of `str.split()`, `splitWords_good`), and every result is
  a prefix of the text's chunks, the last possibly cut, with or without the placeholder (`shortenLine_shape`).
-/
import BqlVerif.Model.Funcs
set_option autoImplicit false
namespace Bql

theorem totalLen_append (a b : List (List Char)) : totalLen (a ++ b) = totalLen a + totalLen b := by
  simp [totalLen, List.sum_append]

theorem totalLen_flatten (l : List (List Char)) : l.flatten.length = totalLen l := by
  simp [totalLen, List.length_flatten]

theorem totalLen_reverse (l : List (List Char)) : totalLen l.reverse = totalLen l := by
  simp [totalLen]

/-! ### never wider than asked: every stage keeps `len = totalLen cur ≤ w` -/

theorem fitLoop_spec (w : Nat) : ∀ (chunks cur : List (List Char)) (len : Nat), len = totalLen cur → len ≤ w →
    (fitLoop w cur len chunks).2.1 = totalLen (fitLoop w cur len chunks).1 ∧ (fitLoop w cur len chunks).2.1 ≤ w ∧
      (fitLoop w cur len chunks).1 ++ (fitLoop w cur len chunks).2.2 = cur ++ chunks
  | [], cur, len, h1, h2 => by
    simp only [fitLoop, List.append_nil]
    exact ⟨h1, h2, trivial⟩
  | c :: rest, cur, len, h1, h2 => by
    simp only [fitLoop]
    by_cases hfit : len + c.length ≤ w
    · simp only [hfit, if_true]
      have := fitLoop_spec w rest (cur ++ [c]) (len + c.length) (by simp [totalLen, h1]) hfit
      refine ⟨this.1, this.2.1, ?_⟩
      rw [this.2.2]; simp
    · simp only [hfit, if_false]
      exact ⟨h1, h2, trivial⟩

/-- `5` is the length of the bare placeholder `[...]` -/
theorem placeholderLoop_le (w : Nat) (hw : 5 ≤ w) : ∀ (cur : List (List Char)) (len : Nat), len = totalLen cur →
    (placeholderLoop w cur len).length ≤ w
  | [], _, _ => by simp [placeholderLoop]; exact hw
  | c :: rest, len, h => by
    simp only [placeholderLoop]
    split
    · rename_i hc
      simp only [Bool.and_eq_true, decide_eq_true_eq] at hc
      simp only [List.length_append, totalLen_flatten, totalLen_reverse, ← h]
      exact hc.2
    · apply placeholderLoop_le w hw rest
      simp [h, totalLen]

theorem longWord_le (w : Nat) (cur : List (List Char)) (len : Nat) (rest : List (List Char))
    (h1 : len = totalLen cur) (h2 : len ≤ w) : totalLen (longWord w cur len rest).1 ≤ w := by
  cases rest with
  | nil => simp [longWord, ← h1, h2]
  | cons c r =>
    simp only [longWord]
    split
    · simp only [totalLen_append, ← h1]
      simp [totalLen]; omega
    · simp [← h1, h2]

theorem dropLast_totalLen_le (cur : List (List Char)) : totalLen cur.dropLast ≤ totalLen cur := by
  by_cases h : cur = []
  · subst h; simp
  · have := List.dropLast_concat_getLast h
    conv => rhs; rw [← this]
    simp [totalLen_append]

theorem dropBlank_cases (cur : List (List Char)) : dropBlank cur = cur ∨ dropBlank cur = cur.dropLast := by
  unfold dropBlank
  cases cur.getLast? with
  | none => exact Or.inl rfl
  | some l => simp only; split <;> simp

theorem dropBlank_le (cur : List (List Char)) : totalLen (dropBlank cur) ≤ totalLen cur := by
  rcases dropBlank_cases cur with h | h <;> rw [h]
  · exact Nat.le_refl _
  · exact dropLast_totalLen_le cur

theorem shortenLine_le (w : Nat) (hw : 5 ≤ w) (chunks : List (List Char)) : (shortenLine w chunks).length ≤ w := by
  unfold shortenLine
  have hf := fitLoop_spec w chunks [] 0 rfl (Nat.zero_le _)
  have hl := longWord_le w _ _ (fitLoop w [] 0 chunks).2.2 hf.1 hf.2.1
  have hd := Nat.le_trans (dropBlank_le _) hl
  simp only
  split
  · simp
  · split
    · rw [totalLen_flatten]; exact hd
    · exact placeholderLoop_le w hw _ _ (totalLen_reverse _).symm

theorem fitLoop_all (w : Nat) : ∀ (chunks cur : List (List Char)) (len : Nat), len + totalLen chunks ≤ w →
    fitLoop w cur len chunks = (cur ++ chunks, len + totalLen chunks, [])
  | [], cur, len, _ => by simp [fitLoop, totalLen]
  | c :: rest, cur, len, h => by
    have hc : len + c.length ≤ w := by simp [totalLen] at h; omega
    simp only [fitLoop, hc, if_true]
    rw [fitLoop_all w rest (cur ++ [c]) (len + c.length) (by simp [totalLen] at h ⊢; omega)]
    simp [totalLen]; omega

def GoodWord (wd : List Char) : Prop := wd ≠ [] ∧ ∀ c ∈ wd, isWs c = false

/-- the words closed so far are good, and the word being read holds no white space -/
def SplitInv (acc : List (List Char) × List Char) : Prop :=
  (∀ wd ∈ acc.1, GoodWord wd) ∧ ∀ x ∈ acc.2, isWs x = false

/-- closing the word being read, as white space and the end of the text do -/
theorem flush_good (acc : List (List Char) × List Char) (h : SplitInv acc) :
    ∀ wd ∈ (if acc.2.isEmpty then acc.1 else acc.1 ++ [acc.2]), GoodWord wd := by
  split
  · exact h.1
  · rename_i he
    intro wd hwd
    rcases List.mem_append.mp hwd with hm | hm
    · exact h.1 wd hm
    · rw [List.mem_singleton.mp hm]
      exact ⟨fun hnil => he (by simp [hnil]), h.2⟩

theorem splitStep_inv (c : Char) (acc : List (List Char) × List Char) (h : SplitInv acc) : SplitInv (splitStep acc c) := by
  unfold splitStep
  split
  · exact ⟨flush_good acc h, by simp⟩
  · rename_i hc
    refine ⟨h.1, fun x hx => ?_⟩
    rcases List.mem_append.mp hx with hm | hm
    · exact h.2 x hm
    · rw [List.mem_singleton.mp hm]; simpa using hc

theorem splitFold_inv (l : List Char) (acc : List (List Char) × List Char) (h : SplitInv acc) :
    SplitInv (l.foldl splitStep acc) := by
  induction l generalizing acc with
  | nil => exact h
  | cons c rest ih => exact ih _ (splitStep_inv c acc h)

theorem splitWords_good (cs : List Char) : ∀ wd ∈ splitWords cs, GoodWord wd :=
  flush_good _ (splitFold_inv cs ([], []) ⟨by simp, by simp⟩)

theorem goodWord_not_blank (wd : List Char) (h : GoodWord wd) : isBlankChunk wd = false := by
  obtain ⟨hne, hall⟩ := h
  cases wd with
  | nil => exact absurd rfl hne
  | cons c rest => simp [isBlankChunk, hall c (List.mem_cons_self ..)]

theorem shortenChunks_ne (ws : List (List Char)) (hne : ws ≠ []) : shortenChunks ws ≠ [] := by
  cases ws with
  | nil => exact absurd rfl hne
  | cons a rest => cases rest <;> simp [shortenChunks]

theorem shortenChunks_last (ws : List (List Char)) : (shortenChunks ws).getLast? = ws.getLast? := by
  induction ws with
  | nil => rfl
  | cons a rest ih =>
    cases rest with
    | nil => rfl
    | cons b r =>
      obtain ⟨x, xs, hx⟩ := List.exists_cons_of_ne_nil (shortenChunks_ne (b :: r) (List.cons_ne_nil b r))
      show (a :: [' '] :: shortenChunks (b :: r)).getLast? = _
      rw [hx, List.getLast?_cons_cons, List.getLast?_cons_cons, ← hx, ih, List.getLast?_cons_cons]

theorem shortenLine_fits (w : Nat) (ws : List (List Char)) (hgood : ∀ wd ∈ ws, GoodWord wd)
    (hfit : totalLen (shortenChunks ws) ≤ w) : shortenLine w (shortenChunks ws) = (shortenChunks ws).flatten := by
  have hd : dropBlank (shortenChunks ws) = shortenChunks ws := by
    unfold dropBlank
    rw [shortenChunks_last]
    cases hl : ws.getLast? with
    | none => rfl
    | some l => simp [goodWord_not_blank l (hgood l (List.mem_of_getLast? hl))]
  unfold shortenLine
  rw [fitLoop_all w (shortenChunks ws) [] 0 (by omega)]
  simp only [List.nil_append, longWord, hd]
  split
  · rename_i he
    rw [List.isEmpty_iff.mp he]; rfl
  · simp [hfit]

/-- `cur` is the line last chunk first: the loop only ever drops chunks from the end of the line -/
theorem placeholderLoop_shape (w : Nat) : ∀ (cur : List (List Char)) (len : Nat),
    placeholderLoop w cur len = "[...]".toList ∨
      ∃ k, k < cur.length ∧ placeholderLoop w cur len = (cur.drop k).reverse.flatten ++ shortenPlaceholder
  | [], _ => Or.inl rfl
  | c :: rest, len => by
    simp only [placeholderLoop]
    split
    · exact Or.inr ⟨0, by simp, rfl⟩
    · rcases placeholderLoop_shape w rest (len - c.length) with h | ⟨k, hk, h⟩
      · exact Or.inl h
      · exact Or.inr ⟨k + 1, by simp; omega, by simpa using h⟩

/-- a prefix of the chunks whose last chunk may have been cut short -/
def CutPrefix (pre chunks : List (List Char)) : Prop :=
  ∃ n, pre = chunks.take n ∨ ∃ m, pre = chunks.take n ++ [(chunks.getD n []).take m]

theorem cutPrefix_take {pre chunks : List (List Char)} (h : CutPrefix pre chunks) (k : Nat) : CutPrefix (pre.take k) chunks := by
  obtain ⟨n, h | ⟨m, h⟩⟩ := h
  · subst h
    exact ⟨min k n, Or.inl (by rw [List.take_take])⟩
  · subst h
    by_cases hk : k ≤ (chunks.take n).length
    · refine ⟨min k n, Or.inl ?_⟩
      rw [List.take_append_of_le_length hk, List.take_take]
    · have : (chunks.take n ++ [(chunks.getD n []).take m]).take k = chunks.take n ++ [(chunks.getD n []).take m] := by
        apply List.take_of_length_le
        simp only [List.length_append, List.length_cons, List.length_nil]
        omega
      rw [this]
      exact ⟨n, Or.inr ⟨m, rfl⟩⟩

theorem longWord_cutPrefix (w : Nat) (cur : List (List Char)) (len : Nat) (rest : List (List Char)) :
    CutPrefix (longWord w cur len rest).1 (cur ++ rest) := by
  refine ⟨cur.length, ?_⟩
  cases rest with
  | nil => exact Or.inl (by simp [longWord])
  | cons c r =>
    simp only [longWord]
    split
    · exact Or.inr ⟨w - len, by simp⟩
    · exact Or.inl (by simp)

theorem shortenLine_shape (w : Nat) (chunks : List (List Char)) :
    shortenLine w chunks = [] ∨ shortenLine w chunks = "[...]".toList ∨
      ∃ pre, CutPrefix pre chunks ∧ (shortenLine w chunks = pre.flatten ∨ shortenLine w chunks = pre.flatten ++ shortenPlaceholder) := by
  have hlw := longWord_cutPrefix w (fitLoop w [] 0 chunks).1 (fitLoop w [] 0 chunks).2.1 (fitLoop w [] 0 chunks).2.2
  rw [(fitLoop_spec w chunks [] 0 rfl (Nat.zero_le _)).2.2] at hlw
  unfold shortenLine
  simp only
  generalize (longWord w (fitLoop w [] 0 chunks).1 (fitLoop w [] 0 chunks).2.1 (fitLoop w [] 0 chunks).2.2) = lw at hlw ⊢
  have hcur : CutPrefix (dropBlank lw.1) chunks := by
    rcases dropBlank_cases lw.1 with h | h <;> rw [h]
    · exact hlw
    · rw [List.dropLast_eq_take]; exact cutPrefix_take hlw _
  generalize dropBlank lw.1 = cur at hcur ⊢
  split
  · exact Or.inl rfl
  · split
    · exact Or.inr (Or.inr ⟨cur, hcur, Or.inl rfl⟩)
    · rcases placeholderLoop_shape w cur.reverse (totalLen cur) with h | ⟨k, _, h⟩
      · exact Or.inr (Or.inl h)
      · refine Or.inr (Or.inr ⟨cur.take (cur.length - k), cutPrefix_take hcur _, Or.inr ?_⟩)
        rw [h]
        congr 2
        rw [List.drop_reverse, List.reverse_reverse]

theorem shorten_eq (text : List Char) (n : Int) (h : 5 ≤ n) :
    shorten text n = some (shortenLine n.toNat (shortenChunks (splitWords text))) := by
  rw [shorten, if_neg (by omega)]

end Bql
