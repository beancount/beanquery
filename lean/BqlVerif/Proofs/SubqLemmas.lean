/-
  Lemmas for C08: the table a FROM-subquery exposes, `SELECT *` over it, and the node `x IN (subquery)` compiles to.
-/
import BqlVerif.Proofs.CompileLemmas
import BqlVerif.Proofs.EvalLemmas
set_option autoImplicit false
namespace Bql

theorem find_nodup_key {β : Type} {l : List (String × β)} (hnd : (l.map (·.1)).Nodup) (x : String × β) (hx : x ∈ l) :
    l.find? (fun c => c.1 == x.1) = some x := by
  induction l with
  | nil => cases hx
  | cons a rest ih =>
    rw [List.map_cons, List.nodup_cons] at hnd
    rcases List.mem_cons.mp hx with rfl | h
    · simp
    · have hne : a.1 ≠ x.1 := fun heq => hnd.1 (heq ▸ List.mem_map_of_mem h)
      simp [hne, ih hnd.2 h]

/-- as long as the names are new, `upsertCol` appends -/
theorem foldl_upsertCol (l : List ((String × Ty) × Nat)) (acc : List (String × Nat × Ty))
    (hnd : (acc.map (·.1) ++ l.map (·.1.1)).Nodup) :
    l.foldl (fun acc p => upsertCol acc p.1.1 p.2 p.1.2) acc = acc ++ l.map (fun p => (p.1.1, p.2, p.1.2)) := by
  induction l generalizing acc with
  | nil => simp
  | cons p rest ih =>
    have hnew : acc.any (fun c => c.1 == p.1.1) = false := by
      rw [List.any_eq_false]
      intro c hc
      have := (List.nodup_append.mp hnd).2.2 c.1 (List.mem_map_of_mem hc) p.1.1 (List.mem_map_of_mem (List.mem_cons_self ..))
      simpa using this
    rw [List.foldl_cons, upsertCol, hnew, ih _ (by simpa using hnd)]
    simp

theorem zipIdx_names (desc : List (String × Ty)) : desc.zipIdx.map (·.1.1) = desc.map (·.1) := by
  rw [← congrArg (List.map (·.1)) (List.zipIdx_map_fst 0 desc), List.map_map]
  rfl

theorem subqueryTable_cols (desc : List (String × Ty)) (rows : List Row) (hnd : (desc.map (·.1)).Nodup) :
    (subqueryTable desc rows).cols = desc.zipIdx.map (fun p => (p.1.1, p.2, p.1.2)) :=
  (foldl_upsertCol desc.zipIdx [] (by rwa [List.map_nil, List.nil_append, zipIdx_names])).trans (List.nil_append _)

theorem lookup_subqueryTable (desc : List (String × Ty)) (rows : List Row) (hnd : (desc.map (·.1)).Nodup) :
    ∀ p ∈ desc.zipIdx, lookupColumn (subqueryTable desc rows) p.1.1 = some (p.2, p.1.2) := by
  intro p hp
  have hnd' : ((desc.zipIdx.map (fun p => (p.1.1, p.2, p.1.2))).map (·.1)).Nodup := by
    rw [List.map_map]
    exact (zipIdx_names desc).symm ▸ hnd
  rw [lookupColumn, subqueryTable_cols desc rows hnd, find_nodup_key hnd' (p.1.1, p.2, p.1.2) (List.mem_map_of_mem hp)]
  rfl

/-- the compiled targets of `*` over a subquery table -/
def starTargets (l : List ((String × Ty) × Nat)) : List CTarget :=
  l.map (fun p => ⟨.col p.2 p.1.1 p.1.2, some p.1.1, false⟩)

theorem compileTargets_star {ctx : Ctx} {tbl : TableDef} {subq : Select → CM SubResult}
    {l : List ((String × Ty) × Nat)} {h : Nat}
    (hl : ∀ p ∈ l, lookupColumn tbl p.1.1 = some (p.2, p.1.2)) :
    compileTargets ctx tbl subq (l.map (fun p => Target.mk (.col p.1.1) none p.1.1)) h = .ok (starTargets l, h) := by
  induction l with
  | nil => rfl
  | cons p rest ih =>
    simp only [List.map_cons, compileTargets, Target.expr, compileExpr, hl p (List.mem_cons_self ..), targetName,
      ih fun q hq => hl q (List.mem_cons_of_mem _ hq)]
    rfl

def starOver (q : Select) : Select := .mk none (.sub q) none [] none [] [] none false

def starQuery (desc : List (String × Ty)) (rows : List Row) : CQuery :=
  { table := rows, targets := starTargets desc.zipIdx, where_ := none, groupIdx := none, havingIdx := none,
    orderSpec := none, limit := none, distinct := false }

theorem implicitGroup_star (l : List ((String × Ty) × Nat)) : implicitGroup (starTargets l) = none := by
  have : (starTargets l).any (·.isAgg) = false := by
    simp only [starTargets, List.any_map, List.any_eq_false]
    exact fun _ _ => Bool.false_ne_true
  simp only [implicitGroup, this, Bool.false_eq_true, if_false]

theorem compile_star_sub (ctx : Ctx) (fuel : Nat) (outer : TableDef) (q : Select) (cq : CQuery)
    (desc : List (String × Ty)) (rows : List Row)
    (hc : compileSelect ctx fuel outer q = .ok (.query cq))
    (he : execSelect cq = .ok (desc, rows))
    (hnd : (desc.map (·.1)).Nodup) :
    compileSelect ctx (fuel + 1) outer (starOver q) = .ok (.query (starQuery desc rows)) := by
  -- `*` is the list of the columns' names
  have hw : wildcardTargets (subqueryTable desc rows) = desc.zipIdx.map (fun p => Target.mk (.col p.1.1) none p.1.1) := by
    rw [wildcardTargets, show (subqueryTable desc rows).wildcard = (subqueryTable desc rows).cols.map (·.1) from rfl,
      subqueryTable_cols desc rows hnd, List.map_map, List.map_map]
    rfl
  -- `starOver q` has no clause but FROM: every stage after the targets returns its input
  simp only [compileSelect_succ, starOver, Select.from_, Select.targets, Select.where_, Select.groupBy, Select.having,
    Select.orderBy, Select.pivotBy, Select.limit, Select.distinct, compileFrom, hc, he, compileClauses, selectList, hw,
    compileTargets_star (lookup_subqueryTable desc rows hnd), compileOpt, compileGroup, compileOrder,
    finishSelect, implicitGroup_star, compilePivot]
  rfl

theorem project_all (r : Row) : project (List.range' 0 r.length) r = r := by
  apply List.ext_getElem
  · simp [project]
  · intro i h1 h2
    simp [project, List.getD_eq_getElem?_getD, h2]

theorem evalTargets_star (row : Row) (l : List ((String × Ty) × Nat)) :
    evalTargets [] row ((starTargets l).map (·.expr)) = .ok (project (l.map (·.2)) row) := by
  induction l with
  | nil => rfl
  | cons p rest ih =>
    simp only [starTargets, List.map_cons, evalTargets, eval] at ih ⊢
    rw [ih]
    rfl

theorem visibleIdx_star {l : List ((String × Ty) × Nat)} (i : Nat) (hne : ∀ p ∈ l, p.1.1 ≠ "") :
    visibleIdx (starTargets l) i = List.range' i l.length := by
  induction l generalizing i with
  | nil => rfl
  | cons p rest ih =>
    simp only [starTargets, List.map_cons, visibleIdx] at ih ⊢
    simp [hne p (List.mem_cons_self ..), ih (i + 1) fun q hq => hne q (List.mem_cons_of_mem _ hq), List.range'_succ]

theorem description_star (l : List ((String × Ty) × Nat)) :
    (starTargets l).filterMap (fun t => t.name.map (fun n => (n, t.expr.ty))) = l.map (·.1) := by
  induction l with
  | nil => rfl
  | cons p rest ih => simp only [starTargets, List.map_cons, List.filterMap_cons] at ih ⊢; rw [ih]; rfl

theorem exec_starQuery (desc : List (String × Ty)) (rows : List Row)
    (hne : ∀ d ∈ desc, d.1 ≠ "") (hw : ∀ r ∈ rows, r.length = desc.length) :
    execSelect (starQuery desc rows) = .ok (desc, rows) := by
  -- the targets read positions `0 .. |desc|-1`, all are visible, and reading these positions of a row of that width gives the row
  have hmap : rows.map (project (List.range' 0 desc.length)) = rows :=
    (List.map_congr_left fun r hr => hw r hr ▸ project_all r).trans (List.map_id _)
  have hsel : selectNonAgg (starQuery desc rows) = .ok rows := by
    rw [selectNonAgg_filter_map _ (fun _ => true) _ (fun _ _ => rfl) fun r _ _ => evalTargets_star r desc.zipIdx,
      List.filter_eq_self.mpr (fun _ _ => rfl), List.zipIdx_map_snd]
    exact congrArg _ hmap
  have hidx : resultIndexes (starTargets desc.zipIdx) = List.range' 0 desc.length := by
    rw [resultIndexes, visibleIdx_star _ fun p hp => hne p.1 (List.zipIdx_map_fst 0 desc ▸ List.mem_map_of_mem hp),
      List.length_zipIdx]
  have hdesc : (starQuery desc rows).description = desc :=
    (description_star desc.zipIdx).trans (List.zipIdx_map_fst 0 desc)
  have hpost : postProcess (starQuery desc rows) rows = .ok rows := by
    simp only [postProcess, unsortable, unhashableDistinct, finishRows, projectedRows, orderedRows, starQuery, hidx, hmap]
    rfl
  simp only [execSelect, show (starQuery desc rows).groupIdx = none from rfl, hsel, hpost, hdesc]

namespace C08

/-- how the compiler represents `x IN (subquery)`: the subquery's single column as a list
    constant, or a NULL constant when the subquery returned no row -/
def inSubqueryNode (op : BinOp) (l : CExpr) (vals : List Value) : CExpr :=
  .binop op l (if vals.isEmpty then .const .null .list else .const (.list vals) .list) .bool

/-- IN and NOT IN differ only in what they make of the membership test (`f`) -/
theorem eval_inSubqueryNode (env : AggEnv) (row : Row) (op : BinOp) (f : Bool → Bool)
    (hop : ∀ x ys, semBin op x (.list ys) = .ok (.bool (f (containsV ys x))))
    (l : CExpr) (vals : List Value) (x : Value) (hl : eval env row l = .ok x) :
    eval env row (inSubqueryNode op l vals) =
      .ok (if x.isNull then .null else if vals.isEmpty then .null else .bool (f (containsV vals x))) := by
  have hr : eval env row (if vals.isEmpty then .const .null .list else .const (.list vals) .list) =
      .ok (if vals.isEmpty then .null else .list vals) := by split <;> rfl
  rw [inSubqueryNode, eval_binop_ok op .bool hl hr]
  cases x.isNull <;> cases vals.isEmpty <;> simp [hop, Value.isNull]

end C08

end Bql
