/-
  The compiler's functions taken apart.  What a successful overload lookup and constant folding give; the parameter check
  read as what its tests decide (`checkParams_eq`) and what it guarantees of `bindParam`; `sortNat` as the insertion sort
  of `SortLemmas`.  The local functions of `resolveGroupKey` / `resolveOrderKey` get names and inversion lemmas;
  `compileSelect` is cut into its stages (FROM, optional clause expressions, GROUP BY with HAVING, ORDER BY, then
  `compileClauses` and `finishSelect`, which take the statement and read everything but FROM), written as `compileSelect`
  writes them, so that `compileSelect` is their composition by `rfl` (`compileSelect_succ`).  A fact about one clause is
  then proved about one stage, without unfolding `compileSelect`.
-/
import BqlVerif.Model.Compile
import BqlVerif.Proofs.SortLemmas
set_option autoImplicit false
namespace Bql

theorem lookupExact_mem {decls : List Decl} {name : String} {sig : List Ty} {d : Decl}
    (h : lookupExact decls name sig = some d) : d ∈ decls ∧ d.name = name ∧ sigMatch d.intypes sig = true := by
  have h1 := List.find?_some h
  rw [Bool.and_eq_true, beq_iff_eq] at h1
  exact ⟨List.mem_of_find?_eq_some h, h1⟩

theorem tyMatch_eq {declared actual : Ty} (h : tyMatch declared actual = true) (hd : (declared != .any) = true) :
    declared = actual := by
  simpa [tyMatch, bne_iff_ne.mp hd] using h

theorem foldConst_ok {e c : CExpr} (h : foldConst e = .ok c) : ∃ v, eval [] [] e = .ok v ∧ c = .const v e.ty := by
  unfold foldConst at h
  split at h
  · exact ⟨_, ‹_›, (Except.ok.inj h).symm⟩
  · cases h

theorem foldConst_err {e : CExpr} {x : Err} (h : foldConst e = .error x) : ∃ s, x = .py s ∧ eval [] [] e = .error s := by
  unfold foldConst at h
  split at h
  · cases h
  · exact ⟨_, (Except.error.inj h).symm, ‹_›⟩

/-- `checkParams` with its tests on the list of named placeholders read as what they decide (`all(names)` and
    `not any(names)` at `compiler.py:52-70`): every placeholder is named, none is -/
theorem checkParams_eq (phs : List (Option String × Nat)) (params : Params) :
    checkParams phs params =
      if phs = [] then .ok ()
      else if ∀ p ∈ phs, p.1.isSome = true then
        match params with
        | .map kvs =>
          if phs.all (fun p => match p.1 with | some n => kvs.any (fun kv => kv.1 == n) | none => true) then .ok ()
          else .error (.programming "query parameter missing")
        | _ => .error (.py "TypeError")
      else if ∀ p ∈ phs, p.1 = none then
        match params with
        | .seq vs => if vs.length = phs.length then .ok () else .error (.programming "wrong number of parameters")
        | _ => .error (.py "TypeError")
      else .error (.programming "positional and named parameters cannot be mixed") := by
  have hall : ((phs.filter (·.1.isSome)).length == phs.length) = true ↔ ∀ p ∈ phs, p.1.isSome = true := by
    rw [beq_iff_eq, List.length_filter_eq_length_iff]
  have hnone : (phs.filter (·.1.isSome)).isEmpty = true ↔ ∀ p ∈ phs, p.1 = none := by
    simp only [List.isEmpty_iff, List.filter_eq_nil_iff, Option.not_isSome_iff_eq_none]
  unfold checkParams
  simp only [List.isEmpty_iff, hall, hnone, beq_iff_eq]
  split
  · rfl
  · split
    · rename_i h
      rw [List.filter_eq_self.mpr h]
      rfl
    · rfl

theorem checkParams_positional {phs : List (Option String × Nat)} (hne : phs ≠ []) (hall : ∀ p ∈ phs, p.1 = none)
    (params : Params) :
    checkParams phs params =
      match params with
      | .seq vs => if vs.length = phs.length then .ok () else .error (.programming "wrong number of parameters")
      | _ => .error (.py "TypeError") := by
  obtain ⟨p, hp⟩ := List.exists_mem_of_ne_nil phs hne
  rw [checkParams_eq, if_neg hne, if_neg fun h => by simpa [hall p hp] using h p hp, if_pos hall]

theorem checkParams_ok {phs : List (Option String × Nat)} {params : Params} (h : checkParams phs params = .ok ()) :
    phs = [] ∨
    (∃ kvs, params = .map kvs ∧ ∀ p ∈ phs, ∃ n, p.1 = some n ∧ kvs.any (fun kv => kv.1 == n) = true) ∨
    (∃ vs, params = .seq vs ∧ vs.length = phs.length ∧ ∀ p ∈ phs, p.1 = none) := by
  rw [checkParams_eq] at h
  split at h
  · exact .inl ‹_›
  split at h
  · rename_i hall
    split at h
    · split at h
      · rename_i kvs hcov
        refine .inr (.inl ⟨kvs, rfl, fun p hp => ?_⟩)
        obtain ⟨n, hn⟩ := Option.isSome_iff_exists.mp (hall p hp)
        exact ⟨n, hn, by simpa only [hn] using List.all_eq_true.mp hcov p hp⟩
      · cases h
    · cases h
  split at h
  · split at h
    · split at h
      · exact .inr (.inr ⟨_, rfl, ‹_›, ‹_›⟩)
      · cases h
    · cases h
  · cases h

/-- `insertNat` / `sortNat` are the insertion sort of `Proofs/SortLemmas`, for `≤` on source positions -/
theorem insertNat_eq_ins (x : Nat) (l : List Nat) : insertNat x l = Sort.ins (fun a b => decide (a ≤ b)) x l := by
  induction l with
  | nil => rfl
  | cons y ys ih => simp only [insertNat, Sort.ins, ih, decide_eq_true_eq]

theorem sortNat_eq_ssort (l : List Nat) : sortNat l = Sort.ssort (fun a b => decide (a ≤ b)) l :=
  congrArg (fun f => l.foldr f []) (funext fun x => funext (insertNat_eq_ins x))

theorem sortNat_perm (l : List Nat) : (sortNat l).Perm l := sortNat_eq_ssort l ▸ Sort.perm_ssort _ l

theorem bindParam_named {ctx : Ctx} {kvs : List (String × Value)} (hp : ctx.params = .map kvs) (n : String) (pos : Nat)
    (h : kvs.any (fun kv => kv.1 == n) = true) : ∃ v, bindParam ctx (some n) pos = .ok v := by
  obtain ⟨kv, hkv, hk⟩ := List.any_eq_true.mp h
  cases hf : kvs.find? (fun p => p.1 == n) with
  | none => exact absurd hk (List.find?_eq_none.mp hf kv hkv)
  | some p => exact ⟨p.2, by simp only [bindParam, hp, hf]⟩

theorem bindParam_positional {ctx : Ctx} {vs : List Value} (hp : ctx.params = .seq vs) (pos : Nat)
    (hm : pos ∈ ctx.positional) (hl : ctx.positional.length ≤ vs.length) : ∃ v, bindParam ctx none pos = .ok v := by
  have hlt : ctx.positional.idxOf pos < vs.length := Nat.lt_of_lt_of_le (List.idxOf_lt_length_of_mem hm) hl
  exact ⟨vs[ctx.positional.idxOf pos], by simp only [bindParam, hp, List.getElem?_eq_getElem hlt]⟩

/-- the checks an index passes before `resolveGroupKey` accepts it (its `finish`) -/
def groupFinish (ts : List CTarget) (index : Nat) : CM (List CTarget × Nat) :=
  match ts[index]? with
  | none => .error (.py "IndexError")
  | some t =>
    if t.expr.isAggregate then .error (.compile "GROUP-BY expressions may not reference aggregates")
    else if !hashableTy t.expr.ty then .error (.compile "GROUP-BY a non-hashable type is not supported")
    else .ok (ts, index)

/-- a GROUP BY expression: found among the targets or appended as a hidden one (`byExpr` of `resolveGroupKey`) -/
def groupByExpr (ts : List CTarget) (ce : CExpr) : CM (List CTarget × Nat) :=
  if ce.isAggregate then .error (.compile "GROUP-BY expressions may not be aggregates")
  else match indexOfExpr ts ce with
    | some i => groupFinish ts i
    | none => groupFinish (ts ++ [⟨ce, none, false⟩]) ts.length

def GroupKeyOk (ts : List CTarget) (r : List CTarget × Nat) : Prop :=
  (∃ extra, r.1 = ts ++ extra ∧ extra.all (fun t => t.name.isNone) = true) ∧
  ∃ t, r.1[r.2]? = some t ∧ t.expr.isAggregate = false ∧ hashableTy t.expr.ty = true

/-- the checks are made on the targets `ts0` or on an extension of them by hidden targets -/
theorem groupFinish_ok {ts0 ts extra : List CTarget} {i : Nat} {r : List CTarget × Nat} (h : groupFinish ts i = .ok r)
    (hts : ts = ts0 ++ extra) (hx : extra.all (fun t => t.name.isNone) = true) : GroupKeyOk ts0 r := by
  unfold groupFinish at h
  split at h
  · cases h
  · split at h
    · cases h
    · split at h
      · cases h
      · rename_i t ht hna hh
        cases h
        exact ⟨⟨extra, hts, hx⟩, t, ht, by simpa using hna, by simpa using hh⟩

theorem groupByExpr_ok {ts : List CTarget} {ce : CExpr} {r : List CTarget × Nat} (h : groupByExpr ts ce = .ok r) :
    GroupKeyOk ts r := by
  unfold groupByExpr at h
  split at h
  · cases h
  · split at h
    · exact groupFinish_ok h (List.append_nil _).symm rfl
    · exact groupFinish_ok h rfl rfl

theorem resolveGroupKey_ok {nvis : Nat} {vis ts : List CTarget} {k : CKey} {u : CM CExpr} {r : List CTarget × Nat}
    (h : resolveGroupKey nvis vis ts k u = .ok r) : GroupKeyOk ts r := by
  have fin : ∀ i, groupFinish ts i = .ok r → GroupKeyOk ts r :=
    fun _ hf => groupFinish_ok hf (List.append_nil _).symm rfl
  -- unfolded, the local `finish` and `byExpr` of `resolveGroupKey` are `groupFinish` and `groupByExpr` up to reduction
  unfold resolveGroupKey at h
  cases k with
  | idx n =>
    simp only at h
    split at h
    · exact fin _ h
    · cases h
  | name n ce =>
    simp only at h
    split at h
    · exact fin _ h
    · split at h
      · exact groupByExpr_ok h
      · split at h
        · cases h
        · exact groupByExpr_ok h
  | expr ce => exact groupByExpr_ok h

/-- an ORDER BY expression: found among the targets or appended as a hidden one (`byExpr` of `resolveOrderKey`) -/
def orderByExpr (ts : List CTarget) (ce : CExpr) : CM (List CTarget × Nat) :=
  if !ce.cols.isEmpty && !ce.aggs.isEmpty then
    .error (.compile "mixed aggregates and non-aggregates are not allowed")
  else match indexOfExpr ts ce with
  | some i => .ok (ts, i)
  | none => .ok (ts ++ [⟨ce, none, ce.isAggregate⟩], ts.length)

theorem orderByExpr_ok {ts : List CTarget} {ce : CExpr} {r : List CTarget × Nat} (h : orderByExpr ts ce = .ok r) :
    ∃ extra, r.1 = ts ++ extra ∧ extra.all (fun t => t.name.isNone) = true := by
  unfold orderByExpr at h
  split at h
  · cases h
  · split at h <;> cases h
    · exact ⟨[], by simp, rfl⟩
    · exact ⟨_, rfl, rfl⟩

theorem resolveOrderKey_ok {nt : Nat} {named ts : List CTarget} {k : CKey} {u : CM CExpr} {r : List CTarget × Nat}
    (h : resolveOrderKey nt named ts k u = .ok r) :
    ∃ extra, r.1 = ts ++ extra ∧ extra.all (fun t => t.name.isNone) = true := by
  have same : ∃ extra, ts = ts ++ extra ∧ extra.all (fun t => t.name.isNone) = true := ⟨[], (List.append_nil _).symm, rfl⟩
  unfold resolveOrderKey at h
  cases k with
  | idx n =>
    simp only at h
    split at h <;> cases h
    exact same
  | name n ce =>
    simp only at h
    split at h
    · cases h
      exact same
    · split at h
      · exact orderByExpr_ok h
      · split at h
        · cases h
        · exact orderByExpr_ok h
  | expr ce => exact orderByExpr_ok h

/-- a 1-based position outside `1..m` fails the range test of `resolveGroupKey` and `resolveOrderKey` -/
theorem idx_out_of_range {n m : Nat} (h : n = 0 ∨ m < n) : (decide (1 ≤ n) && decide (n ≤ m)) = false := by
  rcases h with h | h <;> simp <;> omega

def selectList (tbl : TableDef) : Option (List Target) → List Target
  | some ts => ts
  | none => wildcardTargets tbl

/-- an optional clause expression (the FROM expression, WHERE) -/
def compileOpt (ctx : Ctx) (tbl : TableDef) (subq : Select → CM SubResult) (h : Nat) :
    Option Expr → CM (Option CExpr × Nat)
  | none => .ok (none, h)
  | some e => match compileExpr ctx tbl subq e h with
    | .error x => .error x
    | .ok (c, h) => .ok (some c, h)

/-- the FROM clause: the table the statement runs on, the FROM expression and the handle counter after it;
    `sub` compiles a FROM-subquery -/
def compileFrom (ctx : Ctx) (sub : Select → CM Compiled) (subq : Select → CM SubResult) (outer : TableDef) :
    FromC → CM (TableDef × Option CExpr × Nat)
  | .none => .ok (outer, none, 0)
  | .table n =>
    match ctx.db.find? (fun t => t.name == n) with
    | some t => .ok (t, none, 0)
    | none => .error (.compile s!"table \"{n}\" does not exist")
  | .sub q =>
    match sub q with
    | .error x => .error x
    | .ok (.pivot _ _ _) => .error (.compile "PIVOT BY is not supported in subqueries")
    | .ok (.query cq) =>
      match execSelect cq with
      | .error x => .error (.py x)
      | .ok (desc, rows) => .ok (subqueryTable desc rows, none, 0)
  | .from e open_ close clear =>
    match compileOpt ctx outer subq 0 e with
    | .error x => .error x
    | .ok (c, h) =>
      if (match c with | some c => c.isAggregate | none => false) then
        .error (.compile "aggregates are not allowed in FROM clause")
      else
        let dateCheck : CM Unit :=
          match open_, close with
          | some o, .on d => if d.lt o then .error (.compile "CLOSE date must follow OPEN date") else .ok ()
          | _, _ => .ok ()
        match dateCheck with
        | .error x => .error x
        | .ok () =>
          if outer.updatable then
            if open_.isSome || close != .absent || clear then .error (.py "unmodelled")
            else .ok (outer, c, h)
          else .error (.py "AttributeError")

/-- GROUP BY and HAVING over the compiled SELECT list -/
def compileGroup (ctx : Ctx) (tbl : TableDef) (subq : Select → CM SubResult) (cts : List CTarget)
    (groupBy : List KeyRef) (having : Option Expr) (h2 : Nat) :
    CM (List CTarget × Option (List Nat) × Option Nat × Nat) :=
  if groupBy.isEmpty then
    -- (as the model writes it: HAVING without GROUP BY is unreachable from text and is ignored)
    (match having with
     | some _ => .ok (cts, implicitGroup cts, none, h2)
     | none => .ok (cts, implicitGroup cts, none, h2))
  else
    match compileGroupKeys ctx tbl subq cts.length cts groupBy cts h2 with
    | .error x => .error x
    | .ok (ts, gidx, h3) =>
      match having with
      | none => .ok (ts, some gidx, none, h3)
      | some hv =>
        match compileExpr ctx tbl subq hv h3 with
        | .error x => .error x
        | .ok (ch, h4) =>
          if !ch.isAggregate then .error (.compile "the HAVING clause must be an aggregate expression")
          else if !ch.cols.isEmpty then .error (.compile "mixed aggregates and non-aggregates are not allowed")
          else .ok (ts ++ [⟨ch, none, true⟩], some gidx, some ts.length, h4)

def compileOrder (ctx : Ctx) (tbl : TableDef) (subq : Select → CM SubResult) (ts1 : List CTarget)
    (orderBy : List (KeyRef × Bool)) (h5 : Nat) : CM (List CTarget × Option (List (Nat × Bool)) × Nat) :=
  if orderBy.isEmpty then .ok (ts1, none, h5)
  else match compileOrderKeys ctx tbl subq (ts1.filter (fun t => t.name.isSome)).length ts1 orderBy ts1 h5 with
    | .error x => .error x
    | .ok (ts, spec, h) => .ok (ts, some spec, h)

def finishSelect (tbl : TableDef) (ts2 : List CTarget) (cwhere : Option CExpr) (gidx : Option (List Nat))
    (hidx : Option Nat) (spec : Option (List (Nat × Bool))) (sel : Select) : CM Compiled :=
  if (match gidx with | some g => !coverageOk ts2 g | none => false) then
    .error (.compile "all non-aggregates must be covered by GROUP-BY clause in aggregate query")
  else
  let q : CQuery := { table := tbl.rows, targets := ts2, where_ := cwhere, groupIdx := gidx,
                      havingIdx := hidx, orderSpec := spec, limit := sel.limit, distinct := sel.distinct }
  match compilePivot ts2 gidx sel.pivotBy with
  | .error x => .error x
  | .ok none => .ok (.query q)
  | .ok (some (i, j)) => .ok (.pivot q i j)

/-- everything after FROM, on the table `tbl` -/
def compileClauses (ctx : Ctx) (tbl : TableDef) (subq : Select → CM SubResult) (sel : Select)
    (cfrom : Option CExpr) (h0 : Nat) : CM Compiled :=
  match compileTargets ctx tbl subq (selectList tbl sel.targets) h0 with
  | .error x => .error x
  | .ok (cts, h1) =>
  match compileOpt ctx tbl subq h1 sel.where_ with
  | .error x => .error x
  | .ok (cwhere, h2) =>
  if (match cwhere with | some c => c.isAggregate | none => false) then
    .error (.compile "aggregates are not allowed in WHERE clause")
  else
  match compileGroup ctx tbl subq cts sel.groupBy sel.having h2 with
  | .error x => .error x
  | .ok (ts1, gidx, hidx, h5) =>
  match compileOrder ctx tbl subq ts1 sel.orderBy h5 with
  | .error x => .error x
  | .ok (ts2, spec, _) => finishSelect tbl ts2 (andWhere cfrom cwhere) gidx hidx spec sel

/-- how an expression over `tbl` compiles a nested SELECT -/
def subqFor (ctx : Ctx) (fuel : Nat) (tbl : TableDef) (q : Select) : CM SubResult :=
  subqOf (compileSelect ctx fuel tbl q)

theorem compileSelect_succ (ctx : Ctx) (fuel : Nat) (outer : TableDef) (sel : Select) :
    compileSelect ctx (fuel + 1) outer sel =
      match compileFrom ctx (compileSelect ctx fuel outer) (subqFor ctx fuel outer) outer sel.from_ with
      | .error x => .error x
      | .ok (tbl, cfrom, h0) => compileClauses ctx tbl (subqFor ctx fuel tbl) sel cfrom h0 :=
  rfl

end Bql
