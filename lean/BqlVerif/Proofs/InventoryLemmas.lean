/-
  Lemmas about `Inventory` (Model/Inventory.lean).  The notion everything is said of is `sumKey k l`, the total the entries
  of `l` carry for lot `k`: every `add_amount`, reduced or not, is additive on it without any invariant, and `Inv.get` reads it
  once the keys are known to occur once (`Inv.Uniq`).
-/
import BqlVerif.Model.Inventory
set_option autoImplicit false
namespace Bql.C12

def sumKey (k : LotKey) (l : List (LotKey × Int)) : Int :=
  (l.filter (fun p => p.1 = k)).foldr (fun p acc => p.2 + acc) 0

theorem sumKey_nil (k : LotKey) : sumKey k [] = 0 := rfl

theorem sumKey_cons (k : LotKey) (p : LotKey × Int) (l : List (LotKey × Int)) :
    sumKey k (p :: l) = (if p.1 = k then p.2 else 0) + sumKey k l := by
  unfold sumKey
  by_cases h : p.1 = k <;> simp [h]

theorem sumKey_append (k : LotKey) (l1 l2 : List (LotKey × Int)) :
    sumKey k (l1 ++ l2) = sumKey k l1 + sumKey k l2 := by
  induction l1 with
  | nil => simp [sumKey_nil]
  | cons p l ih => simp only [List.cons_append, sumKey_cons, ih]; omega

theorem sumKey_perm (k : LotKey) {l1 l2 : List (LotKey × Int)} (h : l1.Perm l2) : sumKey k l1 = sumKey k l2 := by
  induction h with
  | nil => rfl
  | cons x _ ih => simp only [sumKey_cons, ih]
  | swap x y l => simp only [sumKey_cons]; omega
  | trans _ _ ih1 ih2 => exact ih1.trans ih2

theorem sumKey_flatten (k : LotKey) (groups : List (List (LotKey × Int))) :
    sumKey k groups.flatten = (groups.map (fun g => sumKey k g)).foldr (· + ·) 0 := by
  induction groups with
  | nil => rfl
  | cons g gs ih => simp only [List.flatten_cons, sumKey_append, List.map_cons, List.foldr_cons, ih]

theorem sumKey_neg (k : LotKey) (inv : Inv) : sumKey k (inv.map (fun p => (p.1, -p.2))) = - sumKey k inv := by
  induction inv with
  | nil => simp [sumKey_nil]
  | cons q qs ih =>
    simp only [List.map_cons, sumKey_cons, ih]
    split <;> omega

theorem sumKey_onPos_cons (f : Reducer) (k' : LotKey) (p : LotKey × Int) (l : List (LotKey × Int)) :
    sumKey k' (f.onPos p :: l) = (if f.kf p.1 = k' then p.2 * f.gf p.1 else 0) + sumKey k' l :=
  sumKey_cons k' _ l

/-- Whichever of update, delete and insert `addAmount` does: the totals are linear in the entries, so the dict invariant
    plays no part. -/
theorem sumKey_reduce_addAmount (f : Reducer) (k' : LotKey) (i : Inv) (k : LotKey) (n : Int) :
    sumKey k' ((i.addAmount k n).map f.onPos) = sumKey k' (i.map f.onPos) + (if f.kf k = k' then n * f.gf k else 0) := by
  induction i with
  | nil =>
    by_cases hn : n = 0 <;>
      simp only [Inv.addAmount, hn, ↓reduceIte, List.map_cons, List.map_nil, sumKey_onPos_cons, sumKey_nil] <;> simp
  | cons p rest ih =>
    obtain ⟨k0, m⟩ := p
    by_cases h0 : k0 = k
    · subst h0
      by_cases hz : m + n = 0
      · simp only [Inv.addAmount, hz, ↓reduceIte, List.map_cons, sumKey_onPos_cons]
        have hm : m = -n := by omega
        subst hm
        rw [Int.neg_mul]
        split <;> omega
      · simp only [Inv.addAmount, hz, ↓reduceIte, List.map_cons, sumKey_onPos_cons, Int.add_mul]
        split <;> omega
    · simp only [Inv.addAmount, h0, ↓reduceIte, List.map_cons, sumKey_onPos_cons, ih]; omega

theorem sumKey_reduce_fold (f : Reducer) (k' : LotKey) (l : List (LotKey × Int)) (acc : Inv) :
    sumKey k' ((l.foldl (fun (i : Inv) p => i.addAmount p.1 p.2) acc).map f.onPos) =
      sumKey k' (acc.map f.onPos) + sumKey k' (l.map f.onPos) := by
  induction l generalizing acc with
  | nil => simp [sumKey_nil]
  | cons p rest ih =>
    simp only [List.foldl_cons, ih, sumKey_reduce_addAmount, List.map_cons, sumKey_onPos_cons]; omega

theorem map_onPos_id (l : List (LotKey × Int)) : l.map (Reducer.onPos ⟨id, fun _ => 1⟩) = l :=
  List.map_id'' (fun p => by simp [Reducer.onPos]) l

/-- the plain totals are the reduced totals of the reducer that changes nothing -/
theorem sumKey_addAmount (k' : LotKey) (i : Inv) (k : LotKey) (n : Int) :
    sumKey k' (i.addAmount k n) = sumKey k' i + (if k = k' then n else 0) := by
  simpa [map_onPos_id] using sumKey_reduce_addAmount ⟨id, fun _ => 1⟩ k' i k n

theorem sumKey_fold (k : LotKey) (l : List (LotKey × Int)) (acc : Inv) :
    sumKey k (l.foldl (fun (i : Inv) p => i.addAmount p.1 p.2) acc) = sumKey k acc + sumKey k l := by
  simpa [map_onPos_id] using sumKey_reduce_fold ⟨id, fun _ => 1⟩ k l acc

theorem addAmount_cancel (k : LotKey) (n : Int) : Inv.addAmount (Inv.addAmount [] k n) k (-n) = [] := by
  by_cases h0 : n = 0
  · simp [Inv.addAmount, h0]
  · simp [Inv.addAmount, h0]; omega

theorem get_not_mem (i : Inv) (k : LotKey) (h : k ∉ i.keys) : i.get k = 0 := by
  induction i with
  | nil => rfl
  | cons p rest ih =>
    obtain ⟨k', m⟩ := p
    simp only [Inv.keys, List.map_cons, List.mem_cons, not_or] at h
    simp only [Inv.get]
    rw [if_neg (fun e => h.1 e.symm)]
    exact ih h.2

theorem uniq_cons {k : LotKey} {m : Int} {rest : Inv} : Inv.Uniq ((k, m) :: rest) ↔ k ∉ rest.keys ∧ rest.Uniq :=
  List.nodup_cons

theorem sumKey_uniq (i : Inv) (h : i.Uniq) (k : LotKey) : sumKey k i = i.get k := by
  induction i with
  | nil => rfl
  | cons p rest ih =>
    obtain ⟨k0, m⟩ := p
    obtain ⟨hk0, hrest⟩ := uniq_cons.1 h
    rw [sumKey_cons, Inv.get, ih hrest]
    by_cases hk : k0 = k
    · subst hk
      simp [get_not_mem rest k0 hk0]
    · simp [hk]

theorem keys_addAmount (i : Inv) (k : LotKey) (n : Int) :
    ∀ x, x ∈ (i.addAmount k n).keys → x = k ∨ x ∈ i.keys := by
  induction i with
  | nil =>
    intro x hx
    simp only [Inv.addAmount] at hx
    split at hx
    · simp [Inv.keys] at hx
    · simp [Inv.keys] at hx; exact Or.inl hx
  | cons p rest ih =>
    obtain ⟨k', m⟩ := p
    intro x hx
    simp only [Inv.addAmount] at hx
    split at hx
    · split at hx
      · exact Or.inr (List.mem_cons_of_mem _ hx)
      · exact Or.inr hx
    · simp only [Inv.keys, List.map_cons, List.mem_cons] at hx ⊢
      rcases hx with h | h
      · exact Or.inr (Or.inl h)
      · exact (ih x h).imp_right Or.inr

theorem uniq_addAmount (i : Inv) (k : LotKey) (n : Int) (h : i.Uniq) : (i.addAmount k n).Uniq := by
  induction i with
  | nil =>
    simp only [Inv.addAmount]
    split <;> simp [Inv.Uniq, Inv.keys]
  | cons p rest ih =>
    obtain ⟨k', m⟩ := p
    obtain ⟨hk', hrest⟩ := uniq_cons.1 h
    simp only [Inv.addAmount]
    split
    · split
      · exact hrest
      · exact uniq_cons.2 ⟨hk', hrest⟩
    · rename_i hne
      exact uniq_cons.2 ⟨fun hmem => (keys_addAmount rest k n k' hmem).elim hne hk', ih hrest⟩

theorem uniq_nil : Inv.Uniq [] := by simp [Inv.Uniq, Inv.keys]

theorem uniq_fold (l : List (LotKey × Int)) (acc : Inv) (h : acc.Uniq) :
    (l.foldl (fun (i : Inv) p => i.addAmount p.1 p.2) acc).Uniq := by
  induction l generalizing acc with
  | nil => exact h
  | cons p rest ih => exact ih _ (uniq_addAmount acc p.1 p.2 h)

theorem get_addAmount (i : Inv) (k : LotKey) (n : Int) (h : i.Uniq) (k' : LotKey) :
    (i.addAmount k n).get k' = if k' = k then i.get k + n else i.get k' := by
  rw [← sumKey_uniq _ (uniq_addAmount i k n h), sumKey_addAmount, sumKey_uniq i h]
  by_cases hk : k = k'
  · simp [hk]
  · simp [hk, Ne.symm hk]

/-- with the guard private to the scan, every reference in one row returns the same value and
    the posting is added exactly once -/
theorem evalBalanceN_fresh (st : ScanState) (rid : Nat) (p : LotKey × Int) (n : Nat)
    (hfresh : st.balanceRowid ≠ some rid) (hn : 1 ≤ n) :
    evalBalanceN st rid p n =
      ({ balance := st.balance.addAmount p.1 p.2, balanceRowid := some rid },
       List.replicate n (st.balance.addAmount p.1 p.2)) := by
  have same : ∀ (m : Nat), evalBalanceN { balance := st.balance.addAmount p.1 p.2, balanceRowid := some rid } rid p m
      = ({ balance := st.balance.addAmount p.1 p.2, balanceRowid := some rid },
         List.replicate m (st.balance.addAmount p.1 p.2)) := by
    intro m
    induction m with
    | zero => rfl
    | succ m ih => simp [evalBalanceN, evalBalance, ih, List.replicate_succ]
  obtain ⟨m, rfl⟩ : ∃ m, n = m + 1 := ⟨n - 1, by omega⟩
  simp [evalBalanceN, evalBalance, hfresh, same m, List.replicate_succ]

end Bql.C12
