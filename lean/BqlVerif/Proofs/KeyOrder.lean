/-
  The model's `list.sort` (`stableSort`) is the insertion sort of `SortLemmas`; the sort-key comparator
  `keyLt` is a strict weak order, and a strict weak order yields a total preorder.
-/
import BqlVerif.Model.Exec
import BqlVerif.Proofs.SortLemmas
set_option autoImplicit false

namespace Bql.Sort
variable {α : Type}

theorem insSorted_eq_ins (lt : α → α → Bool) : insSorted lt = ins (leOf lt) := by
  funext x l
  induction l with
  | nil => rfl
  | cons y ys ih => simp [insSorted, ins, leOf, ih]

theorem stableSort_eq_ssort (lt : α → α → Bool) (l : List α) :
    stableSort lt l = ssort (leOf lt) l := by
  rw [stableSort, insSorted_eq_ins]; rfl

theorem perm_stableSort (lt : α → α → Bool) (l : List α) : (stableSort lt l).Perm l := by
  rw [stableSort_eq_ssort]; exact perm_ssort _ _

theorem sorted_stableSort {lt : α → α → Bool} (h : TotalPre (leOf lt)) (l : List α) :
    Sorted (leOf lt) (stableSort lt l) := by
  rw [stableSort_eq_ssort]; exact sorted_ssort h l

end Bql.Sort

namespace Bql
open Bql.Sort

/-! ### decimals: comparison by cross scaling is comparison of scaled integers -/

def Dec.sc (a : Dec) (e : Int) : Int := a.coef * 10 ^ (a.exp - e).toNat

theorem Dec.sc_shift (a : Dec) (e m : Int) (h1 : e ≤ m) (h2 : m ≤ a.exp) :
    a.sc e = a.sc m * 10 ^ (m - e).toNat := by
  unfold Dec.sc
  have : (a.exp - e).toNat = (a.exp - m).toNat + (m - e).toNat := by omega
  rw [this, Int.pow_add, Int.mul_assoc]

theorem Dec.lt_iff_sc (a b : Dec) (e : Int) (ha : e ≤ a.exp) (hb : e ≤ b.exp) :
    Dec.lt a b = true ↔ a.sc e < b.sc e := by
  have hm1 : min a.exp b.exp ≤ a.exp := Int.min_le_left ..
  have hm2 : min a.exp b.exp ≤ b.exp := Int.min_le_right ..
  have hme : e ≤ min a.exp b.exp := by omega
  rw [Dec.sc_shift a e _ hme hm1, Dec.sc_shift b e _ hme hm2]
  have hpos : (0 : Int) < 10 ^ (min a.exp b.exp - e).toNat := Int.pow_pos (by decide)
  rw [Int.mul_lt_mul_right hpos]
  -- `Dec.cmp` aligns both coefficients to the smaller exponent and compares them: these are `sc` at `min a.exp b.exp`
  simp [Dec.lt, Dec.cmp, Dec.align, pow10, Dec.sc, Int.compare_eq_lt]

theorem Dec.lt_asymm {a b : Dec} (h : Dec.lt a b = true) : Dec.lt b a = false := by
  have e1 := (Dec.lt_iff_sc a b (min a.exp b.exp) (Int.min_le_left ..) (Int.min_le_right ..)).mp h
  cases h2 : Dec.lt b a with
  | false => rfl
  | true =>
    have e2 := (Dec.lt_iff_sc b a (min a.exp b.exp) (Int.min_le_right ..) (Int.min_le_left ..)).mp h2
    omega

theorem Dec.lt_negTrans {a b c : Dec} (h : Dec.lt a c = true) : Dec.lt a b = true ∨ Dec.lt b c = true := by
  let e := min a.exp (min b.exp c.exp)
  have ha : e ≤ a.exp := Int.min_le_left ..
  have hb : e ≤ b.exp := Int.le_trans (Int.min_le_right ..) (Int.min_le_left ..)
  have hc : e ≤ c.exp := Int.le_trans (Int.min_le_right ..) (Int.min_le_right ..)
  have h1 := (Dec.lt_iff_sc a c e ha hc).mp h
  by_cases h2 : a.sc e < b.sc e
  · exact Or.inl ((Dec.lt_iff_sc a b e ha hb).mpr h2)
  · exact Or.inr ((Dec.lt_iff_sc b c e hb hc).mpr (by omega))

theorem Date.lt_asymm {a b : Date} (h : a.lt b = true) : b.lt a = false := by
  cases hb : b.lt a with
  | false => rfl
  | true =>
    simp [Date.lt] at h hb
    omega

theorem Date.lt_negTrans {a b c : Date} (h : a.lt c = true) : a.lt b = true ∨ b.lt c = true := by
  simp only [Date.lt, Bool.or_eq_true, Bool.and_eq_true, decide_eq_true_eq, beq_iff_eq] at *
  omega

theorem SortKey.lt_of_rank_lt {a b : SortKey} (h : a.rank < b.rank) : a.lt b = true := by
  cases a <;> cases b <;> simp [SortKey.lt, SortKey.rank] at h ⊢

theorem SortKey.lt_asymm {a b : SortKey} (h : a.lt b = true) : b.lt a = false := by
  cases a <;> cases b <;> simp [SortKey.lt, SortKey.rank] at h ⊢
  · exact Dec.lt_asymm h
  · exact String.lt_asymm h
  · exact Date.lt_asymm h

theorem SortKey.lt_negTrans {a b c : SortKey} (h : a.lt c = true) : a.lt b = true ∨ b.lt c = true := by
  -- the pairs with `a < c` first, then `b` against each
  cases a <;> cases c <;> simp [SortKey.lt, SortKey.rank] at h <;> cases b <;> simp [SortKey.lt, SortKey.rank]
  · exact Dec.lt_negTrans h
  · rename_i x z y
    by_cases hxy : x < y
    · exact Or.inl hxy
    · exact Or.inr (Std.lt_of_le_of_lt (String.not_lt.mp hxy) h)
  · exact Date.lt_negTrans h

theorem keyLt_asymm (a b : Value) (h : keyLt a b = true) : keyLt b a = false :=
  SortKey.lt_asymm h

theorem keyLt_negTrans (a b c : Value) (h : keyLt a c = true) : keyLt a b = true ∨ keyLt b c = true :=
  SortKey.lt_negTrans h

theorem totalPre_of_swo {α : Type} {lt : α → α → Bool}
    (asymm : ∀ a b, lt a b = true → lt b a = false)
    (negTrans : ∀ a b c, lt a c = true → lt a b = true ∨ lt b c = true) :
    TotalPre (leOf lt) := by
  constructor
  · intro a b
    unfold leOf
    cases h : lt b a with
    | false => left; rfl
    | true => right; simp [asymm b a h]
  · intro a b c hab hbc
    unfold leOf at *
    cases h : lt c a with
    | false => rfl
    | true =>
      rcases negTrans c b a h with h1 | h1
      · simp [h1] at hbc
      · simp [h1] at hab

end Bql
