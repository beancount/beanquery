/-
  The scanner reads back written tokens: for every sequence of written tokens (words in any letter
  case, integers with leading zeros, decimals in all three spellings, dates, strings in either
  quote, table names, symbols, placeholders), each followed by one blank, `lex` returns exactly
  their tokens.  Every natural number has such a text (`digitsOf`).
-/
import BqlVerif.Model.Lexer
set_option autoImplicit false
namespace Bql.Syn

theorem idStart_range (c : Char) (h : isIdStart c = true) :
    (97 ≤ c.toNat ∧ c.toNat ≤ 122) ∨ (65 ≤ c.toNat ∧ c.toNat ≤ 90) ∨ c.toNat = 95 := by
  simp only [isIdStart, Bool.or_eq_true, Bool.and_eq_true, decide_eq_true_eq, beq_iff_eq, Char.le_def] at h
  rcases h with (h | h) | rfl
  · exact .inl h
  · exact .inr (.inl h)
  · exact .inr (.inr rfl)

theorem digit_range (c : Char) (h : isDigit c = true) : 48 ≤ c.toNat ∧ c.toNat ≤ 57 := by
  simp only [isDigit, Bool.and_eq_true, decide_eq_true_eq, Char.le_def] at h
  exact h

theorem ne_of_toNat (c d : Char) (h : c.toNat ≠ d.toNat) : (c == d) = false :=
  beq_false_of_ne fun e => h (e ▸ rfl)

theorem ws_false_of_range (c : Char) (h : 33 ≤ c.toNat ∧ c.toNat ≤ 126) : isWs c = false := by
  have e : ∀ d : Char, d.toNat < 33 → (c == d) = false := fun d hd => ne_of_toNat c d (by omega)
  simp only [isWs, e ' ' (by decide), e '\t' (by decide), e '\n' (by decide), e '\r' (by decide), Bool.false_or,
    Bool.or_eq_false_iff, Bool.and_eq_false_iff, decide_eq_false_iff_not, beq_eq_false_iff_ne]
  omega

/-- what the scanner asks of the first character before it asks whether it starts a name -/
theorem idStart_facts (c : Char) (h : isIdStart c = true) :
    isWs c = false ∧ (c == '/') = false ∧ (c == ';') = false ∧ isDigit c = false ∧ (c == '.') = false := by
  have hr := idStart_range c h
  refine ⟨ws_false_of_range c (by omega), ne_of_toNat c '/' (by simp; omega), ne_of_toNat c ';' (by simp; omega), ?_,
    ne_of_toNat c '.' (by simp; omega)⟩
  cases hd : isDigit c with
  | false => rfl
  | true => have := digit_range c hd; omega

theorem digit_facts (c : Char) (h : isDigit c = true) :
    isWs c = false ∧ (c == '/') = false ∧ (c == ';') = false := by
  have hr := digit_range c h
  exact ⟨ws_false_of_range c (by omega), ne_of_toNat c '/' (by simp; omega), ne_of_toNat c ';' (by simp; omega)⟩

theorem takeWhile_append_stop {α : Type} (p : α → Bool) (xs : List α) (y : α) (rest : List α)
    (hx : ∀ x ∈ xs, p x = true) (hy : p y = false) :
    (xs ++ y :: rest).takeWhile p = xs ∧ (xs ++ y :: rest).dropWhile p = y :: rest := by
  have hn : ¬ p y = true := by rw [hy]; exact Bool.false_ne_true
  rw [List.takeWhile_append_of_pos hx, List.takeWhile_cons_of_neg hn, List.dropWhile_append_of_pos hx,
    List.dropWhile_cons_of_neg hn, List.append_nil]
  exact ⟨rfl, rfl⟩

theorem scanString_print (q : Char) (body rest acc : List Char) (h : ∀ c ∈ body, (c == q) = false) :
    scanString q acc (body ++ q :: rest) = some (acc.reverse ++ body, rest) := by
  induction body generalizing acc with
  | nil => simp [scanString]
  | cons c cs ih =>
    have hc := h c (by simp)
    simp only [List.cons_append, scanString, hc, Bool.false_eq_true, ↓reduceIte]
    rw [ih (c :: acc) (fun z hz => h z (List.mem_cons_of_mem _ hz))]
    simp

def symText : Sym → List Char
  | .lparen => ['('] | .rparen => [')'] | .comma => [','] | .dot => ['.'] | .lbrack => ['['] | .rbrack => [']']
  | .star => ['*'] | .slash => ['/'] | .plus => ['+'] | .minus => ['-'] | .percent => ['%']
  | .lt => ['<'] | .le => ['<', '='] | .gt => ['>'] | .ge => ['>', '='] | .eq => ['='] | .ne => ['!', '=']
  | .tilde => ['~'] | .ntilde => ['!', '~']

inductive WTok
  | word (cs : List Char)
  | int (ds : List Char)
  | dec (d1 d2 : List Char)
  | date (a b c d e f g h : Char)
  | str (q : Char) (body : List Char)
  | table (name : List Char)
  | sym (s : Sym)
  | ph (c : Char)
  | phNamed (cs : List Char) (c : Char)

def WTok.text : WTok → List Char
  | .word cs => cs
  | .int ds => ds
  | .dec d1 d2 => d1 ++ '.' :: d2
  | .date a b c d e f g h => [a, b, c, d, '-', e, f, '-', g, h]
  | .str q body => q :: (body ++ [q])
  | .table name => '#' :: name
  | .sym s => symText s
  | .ph c => ['%', c]
  | .phNamed cs c => '%' :: '(' :: (cs ++ [')', c])

def lowerWord (cs : List Char) : String := String.ofList (cs.map lowerChar)

def WTok.toks : WTok → List Tok
  | .word cs => [.word (lowerWord cs)]
  | .int ds => [.int (natOfDigitChars ds)]
  | .dec d1 d2 => [.dec (natOfDigitChars (d1 ++ d2)) (-(d2.length : Int)) (!d1.isEmpty)]
  | .date a b c d e f g h => [.date (natOfDigitChars [a, b, c, d]) (natOfDigitChars [e, f]) (natOfDigitChars [g, h])]
  | .str _ body => [.str (String.ofList body)]
  | .table name => [.table (String.ofList name)]
  | .sym s => [.sym s]
  | .ph _ => [.ph]
  | .phNamed cs _ => [.phOpen, .word (lowerWord cs), .phClose]

def isWordChars (cs : List Char) : Prop := ∃ c rest, cs = c :: rest ∧ isIdStart c = true ∧ ∀ x ∈ rest, isIdChar x = true

def WTok.ok : WTok → Prop
  | .word cs => isWordChars cs
  | .int ds => ds ≠ [] ∧ ∀ x ∈ ds, isDigit x = true
  | .dec d1 d2 => (d1 ≠ [] ∨ d2 ≠ []) ∧ (∀ x ∈ d1, isDigit x = true) ∧ (∀ x ∈ d2, isDigit x = true)
  | .date a b c d e f g h => isDigit a = true ∧ isDigit b = true ∧ isDigit c = true ∧ isDigit d = true ∧ isDigit e = true ∧
      isDigit f = true ∧ isDigit g = true ∧ isDigit h = true
  | .str q body => (q = '\'' ∨ q = '"') ∧ ∀ c ∈ body, (c == q) = false
  | .table name => name = [] ∨ isWordChars name
  | .sym _ => True
  | .ph c => c = 's' ∨ c = 'S'
  | .phNamed cs c => isWordChars cs ∧ (c = 's' ∨ c = 'S')

def WTok.isPh : WTok → Bool
  | .ph _ | .phNamed _ _ => true
  | _ => false

def lastTok (w : WTok) : Tok := (w.toks.getLast?).getD .ph

/-- a placeholder is written only where an operand may start (after an operand `%` is the modulo operator) -/
def PhCtx : Option Tok → List WTok → Prop
  | _, [] => True
  | prev, w :: rest => (w.isPh = true → (prev.map endsOperand).getD false = false) ∧ PhCtx (some (lastTok w)) rest

def renderW (ws : List WTok) : List Char := ws.flatMap (fun w => w.text ++ [' '])

theorem dateTail_none {c : Char} {rest : List Char} (hc : (c == '-') = false) : dateTail (c :: rest) = none := by
  unfold dateTail
  split
  · rename_i heq
    cases heq
    simp [hc]
  · rfl

theorem scanNumber_eq_num2 {cs : List Char} (h : dateTail (cs.dropWhile isDigit) = none) : scanNumber cs = scanNum2 cs := by
  simp only [scanNumber, h, ite_self]

theorem scanNumber_int (ds rest : List Char) (hd : ∀ x ∈ ds, isDigit x = true) :
    scanNumber (ds ++ ' ' :: rest) = (.int (natOfDigitChars ds), ' ' :: rest) := by
  obtain ⟨h1, h2⟩ := takeWhile_append_stop isDigit ds ' ' rest hd (by decide)
  rw [scanNumber_eq_num2 (by rw [h2]; exact dateTail_none (by decide))]
  simp [scanNum2, h1, h2]

theorem scanNumber_dec (d1 d2 rest : List Char) (hw : (WTok.dec d1 d2).ok) :
    scanNumber (d1 ++ '.' :: (d2 ++ ' ' :: rest)) =
      (.dec (natOfDigitChars (d1 ++ d2)) (-(d2.length : Int)) (!d1.isEmpty), ' ' :: rest) := by
  obtain ⟨hne, h1, h2⟩ := hw
  obtain ⟨a1, a2⟩ := takeWhile_append_stop isDigit d1 '.' (d2 ++ ' ' :: rest) h1 (by decide)
  obtain ⟨b1, b2⟩ := takeWhile_append_stop isDigit d2 ' ' rest h2 (by decide)
  rw [scanNumber_eq_num2 (by rw [a2]; exact dateTail_none (by decide))]
  have hemp : (d1.isEmpty && d2.isEmpty) = false := by
    cases d1 <;> cases d2 <;> simp_all
  simp [scanNum2, a1, a2, b1, b2, hemp]

theorem scanNumber_date (a b c d e f g h : Char) (rest : List Char) (hw : (WTok.date a b c d e f g h).ok) :
    scanNumber (a :: b :: c :: d :: '-' :: e :: f :: '-' :: g :: h :: rest) =
      (.date (natOfDigitChars [a, b, c, d]) (natOfDigitChars [e, f]) (natOfDigitChars [g, h]), rest) := by
  obtain ⟨ha, hb, hc, hd, he, hf, hg, hh⟩ := hw
  have := takeWhile_append_stop isDigit [a, b, c, d] '-' (e :: f :: '-' :: g :: h :: rest)
    (by intro x hx; simp at hx; rcases hx with rfl | rfl | rfl | rfl <;> assumption) (by decide)
  simp only [List.cons_append, List.nil_append] at this
  unfold scanNumber
  simp [this.1, this.2, dateTail, he, hf, hg, hh]

theorem lex_space (f : Nat) (inPh : Bool) (prev : Option Tok) (rest : List Char) (acc : List Tok) :
    lexLoop (f + 1) inPh prev (' ' :: rest) acc = lexLoop f inPh prev rest acc := rfl

theorem lex_quote (f : Nat) (inPh : Bool) (prev : Option Tok) (q : Char) (cs : List Char) (acc : List Tok) (hq : q = '\'' ∨ q = '"') :
    lexLoop (f + 1) inPh prev (q :: cs) acc =
      match scanString q [] cs with
      | some (s, rest) => lexLoop f inPh (some (.str (String.ofList s))) rest (.str (String.ofList s) :: acc)
      | none => none := by
  rcases hq with rfl | rfl <;> rfl

theorem lex_percent (f : Nat) (inPh : Bool) (prev : Option Tok) (cs : List Char) (acc : List Tok) :
    lexLoop (f + 1) inPh prev ('%' :: cs) acc =
      if (prev.map endsOperand).getD false then lexLoop f inPh (some (.sym .percent)) cs (.sym .percent :: acc)
      else match cs with
        | 's' :: rest => lexLoop f inPh (some .ph) rest (.ph :: acc)
        | 'S' :: rest => lexLoop f inPh (some .ph) rest (.ph :: acc)
        | '(' :: rest => lexLoop f true (some .phOpen) rest (.phOpen :: acc)
        | _ => lexLoop f inPh (some (.sym .percent)) cs (.sym .percent :: acc) := rfl

theorem lex_dot (f : Nat) (inPh : Bool) (prev : Option Tok) (cs : List Char) (acc : List Tok) :
    lexLoop (f + 1) inPh prev ('.' :: cs) acc =
      if (cs.head?.map isDigit).getD false then
        lexLoop f inPh (some (scanNumber ('.' :: cs)).1) (scanNumber ('.' :: cs)).2 ((scanNumber ('.' :: cs)).1 :: acc)
      else lexLoop f inPh (some (.sym .dot)) cs (.sym .dot :: acc) := rfl

theorem lex_hash (f : Nat) (inPh : Bool) (prev : Option Tok) (cs : List Char) (acc : List Tok) :
    lexLoop (f + 1) inPh prev ('#' :: cs) acc =
      match cs with
      | d :: _ =>
        if isIdStart d then
          lexLoop f inPh (some (.table (String.ofList (cs.takeWhile isIdChar)))) (cs.dropWhile isIdChar)
            (.table (String.ofList (cs.takeWhile isIdChar)) :: acc)
        else lexLoop f inPh (some (.table "")) cs (.table "" :: acc)
      | [] => lexLoop f inPh (some (.table "")) [] (.table "" :: acc) := rfl

theorem lex_number (f : Nat) (inPh : Bool) (prev : Option Tok) (c : Char) (cs : List Char) (acc : List Tok)
    (hc : isDigit c = true ∨ c = '.' ∧ (cs.head?.map isDigit).getD false = true) :
    lexLoop (f + 1) inPh prev (c :: cs) acc =
      lexLoop f inPh (some (scanNumber (c :: cs)).1) (scanNumber (c :: cs)).2 ((scanNumber (c :: cs)).1 :: acc) := by
  rcases hc with hc | ⟨rfl, hd⟩
  · obtain ⟨f1, f2, f3⟩ := digit_facts c hc
    simp only [lexLoop, f1, f2, f3, Bool.false_and, Bool.false_eq_true, ↓reduceIte, hc, Bool.true_or]
  · rw [lex_dot, if_pos hd]

theorem wordChars_all (cs : List Char) (h : isWordChars cs) : ∀ x ∈ cs, isIdChar x = true := by
  obtain ⟨c, r, rfl, hc, hr⟩ := h
  intro x hx
  rcases List.mem_cons.mp hx with rfl | hx
  · simp [isIdChar, hc]
  · exact hr x hx

/-- a word ends at any character that is not a name character (the blank, or the `)` of `%(name)s`) -/
theorem lex_word (f : Nat) (inPh : Bool) (prev : Option Tok) (cs : List Char) (y : Char) (rest : List Char) (acc : List Tok)
    (h : isWordChars cs) (hy : isIdChar y = false) :
    lexLoop (f + 1) inPh prev (cs ++ y :: rest) acc =
      lexLoop f inPh (some (.word (lowerWord cs))) (y :: rest) (.word (lowerWord cs) :: acc) := by
  obtain ⟨t1, t2⟩ := takeWhile_append_stop isIdChar cs y rest (wordChars_all cs h) hy
  obtain ⟨c, r, rfl, hc, -⟩ := h
  obtain ⟨f1, f2, f3, f4, f5⟩ := idStart_facts c hc
  simp only [List.cons_append] at t1 t2
  simp only [List.cons_append, lexLoop, f1, f2, f3, f4, f5, Bool.false_and, Bool.false_or, Bool.false_eq_true, ↓reduceIte, hc, t1, t2,
    lowerWord]

/-- **One written token**, followed by a blank, is read back as its tokens (one unit of fuel each). -/
theorem lex_tok (w : WTok) (hw : w.ok) (f : Nat) (prev : Option Tok) (rest : List Char) (acc : List Tok)
    (hp : w.isPh = true → (prev.map endsOperand).getD false = false) :
    lexLoop (f + w.toks.length) false prev (w.text ++ ' ' :: rest) acc =
      lexLoop f false (some (lastTok w)) (' ' :: rest) (w.toks.reverse ++ acc) := by
  cases w with
  | word cs => exact lex_word f false prev cs ' ' rest acc hw (by decide)
  | int ds =>
    obtain ⟨c, r, rfl⟩ := List.exists_cons_of_ne_nil hw.1
    show lexLoop (f + 1) false prev (c :: (r ++ ' ' :: rest)) acc = _
    rw [lex_number f false prev c _ acc (.inl (hw.2 c (by simp))), ← List.cons_append, scanNumber_int _ rest hw.2]
    rfl
  | dec d1 d2 =>
    have hs := scanNumber_dec d1 d2 rest hw
    show lexLoop (f + 1) false prev ((d1 ++ '.' :: d2) ++ ' ' :: rest) acc = _
    rw [List.append_assoc, List.cons_append]
    cases d1 with
    | cons c r =>
      rw [List.cons_append] at hs ⊢
      rw [lex_number f false prev c _ acc (.inl (hw.2.1 c (by simp))), hs]
      rfl
    | nil =>
      -- `.d`: the dot starts a number because a digit follows
      obtain ⟨c, r, rfl⟩ := List.exists_cons_of_ne_nil (hw.1.resolve_left (fun h => h rfl))
      rw [List.nil_append, List.cons_append] at hs ⊢
      rw [lex_number f false prev '.' (c :: _) acc (.inr ⟨rfl, hw.2.2 c (by simp)⟩), hs]
      rfl
  | date a b c d e g h i =>
    show lexLoop (f + 1) false prev (a :: b :: c :: d :: '-' :: e :: g :: '-' :: h :: i :: ' ' :: rest) acc = _
    rw [lex_number f false prev a _ acc (.inl hw.1), scanNumber_date a b c d e g h i _ hw]
    rfl
  | str q body =>
    show lexLoop (f + 1) false prev (q :: (body ++ [q]) ++ ' ' :: rest) acc = _
    rw [List.cons_append, List.append_assoc, lex_quote f false prev q _ acc hw.1, List.singleton_append,
      scanString_print q body _ [] hw.2]
    rfl
  | table name =>
    show lexLoop (f + 1) false prev ('#' :: (name ++ ' ' :: rest)) acc = _
    rcases hw with rfl | hn
    · rfl
    · obtain ⟨t1, t2⟩ := takeWhile_append_stop isIdChar name ' ' rest (wordChars_all name hn) (by decide)
      obtain ⟨c, r, rfl, hc, -⟩ := hn
      rw [lex_hash, List.cons_append]
      simp only [hc, ↓reduceIte]
      rw [← List.cons_append, t1, t2]
      rfl
  | sym s =>
    cases s with
    | percent =>
      show lexLoop (f + 1) false prev ('%' :: ' ' :: rest) acc = _
      rw [lex_percent]
      split <;> rfl
    | _ => rfl
  | ph c =>
    show lexLoop (f + 1) false prev ('%' :: c :: ' ' :: rest) acc = _
    rw [lex_percent, hp rfl]
    rcases hw with rfl | rfl <;> rfl
  | phNamed cs c =>
    show lexLoop (f + 2 + 1) false prev ('%' :: '(' :: (cs ++ [')', c]) ++ ' ' :: rest) acc = _
    rw [List.cons_append, List.cons_append, List.append_assoc, lex_percent, hp rfl]
    show lexLoop (f + 1 + 1) true (some .phOpen) (cs ++ ')' :: c :: ' ' :: rest) (.phOpen :: acc) = _
    rw [lex_word (f + 1) true (some .phOpen) cs ')' (c :: ' ' :: rest) (.phOpen :: acc) hw.1 (by decide)]
    rcases hw.2 with rfl | rfl <;> rfl

theorem renderW_cons (w : WTok) (rest : List WTok) : renderW (w :: rest) = w.text ++ ' ' :: renderW rest := by
  simp [renderW]

theorem toks_le_text (w : WTok) (h : w.ok) : w.toks.length ≤ w.text.length := by
  cases w with
  | word cs => obtain ⟨c, r, rfl, _, _⟩ := h; simp [WTok.toks, WTok.text]
  | int ds => obtain ⟨hne, _⟩ := h; cases ds <;> simp_all [WTok.toks, WTok.text]
  | phNamed cs c => simp [WTok.toks, WTok.text]
  | dec d1 d2 => simp [WTok.toks, WTok.text]; omega
  | sym s => cases s <;> simp [WTok.toks, WTok.text, symText]
  | _ => simp [WTok.toks, WTok.text]

theorem lexLoop_render (ws : List WTok) : ∀ (prev : Option Tok) (acc : List Tok) (f : Nat),
    (∀ w ∈ ws, w.ok) → PhCtx prev ws → (renderW ws).length < f →
    lexLoop f false prev (renderW ws) acc = some (acc.reverse ++ ws.flatMap WTok.toks) := by
  induction ws with
  | nil =>
    intro prev acc f _ _ hf
    obtain ⟨k, rfl⟩ : ∃ k, f = k + 1 := ⟨f - 1, by omega⟩
    simp [renderW, lexLoop]
  | cons w rest ih =>
    intro prev acc f hok hph hf
    have hw := hok w (by simp)
    have hl := toks_le_text w hw
    rw [renderW_cons] at hf ⊢
    obtain ⟨k, rfl⟩ : ∃ k, f = k + 1 + w.toks.length := ⟨f - 1 - w.toks.length, by simp at hf; omega⟩
    rw [lex_tok w hw (k + 1) prev _ acc hph.1, lex_space,
      ih _ _ k (fun x hx => hok x (List.mem_cons_of_mem _ hx)) hph.2 (by simp at hf; omega)]
    simp

theorem lex_render (ws : List WTok) (hok : ∀ w ∈ ws, w.ok) (hph : PhCtx none ws) :
    lex (renderW ws) = some (ws.flatMap WTok.toks) := by
  simpa [lex] using lexLoop_render ws none [] ((renderW ws).length + 1) hok hph (Nat.lt_succ_self _)

end Bql.Syn

namespace Bql.C06
open Bql.Syn

def digitsAux : Nat → Nat → List Char
  | 0, _ => []
  | f + 1, n => if n < 10 then [Char.ofNat (48 + n)] else digitsAux f (n / 10) ++ [Char.ofNat (48 + n % 10)]

def digitsOf (n : Nat) : List Char := digitsAux (n + 1) n

theorem digit_char : ∀ d, d < 10 → digitVal (Char.ofNat (48 + d)) = d ∧ isDigit (Char.ofNat (48 + d)) = true := by decide

theorem natOfDigitChars_snoc (xs : List Char) (c : Char) : natOfDigitChars (xs ++ [c]) = natOfDigitChars xs * 10 + digitVal c := by
  simp [natOfDigitChars, List.foldl_append]

theorem digitsAux_spec : ∀ f n, n < f →
    natOfDigitChars (digitsAux f n) = n ∧ (∀ x ∈ digitsAux f n, isDigit x = true) ∧ digitsAux f n ≠ []
  | 0, n, h => absurd h (Nat.not_lt_zero n)
  | f + 1, n, h => by
    have hd := digit_char (n % 10) (Nat.mod_lt _ (by omega))
    unfold digitsAux
    split
    · next hn =>
      rw [Nat.mod_eq_of_lt hn] at hd
      simp [natOfDigitChars, hd]
    · obtain ⟨i1, i2, _⟩ := digitsAux_spec f (n / 10) (by omega)
      refine ⟨by rw [natOfDigitChars_snoc, i1, hd.1]; omega, ?_, by simp⟩
      simpa [hd.2, or_imp, forall_and] using i2

theorem digitsOf_spec (n : Nat) : natOfDigitChars (digitsOf n) = n ∧ (WTok.int (digitsOf n)).ok :=
  let ⟨h1, h2, h3⟩ := digitsAux_spec (n + 1) n (Nat.lt_succ_self n)
  ⟨h1, h3, h2⟩

end Bql.C06
