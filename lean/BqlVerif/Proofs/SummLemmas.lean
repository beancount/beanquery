/-
  Lemmas about the summarisation model (Model/Summarize.lean).  Everything is said of totals per account and lot: `psum` /
  `tsum` over postings and transactions, `bsum` over a balances list.  Building balances, filtering and sorting them and
  generating entries from them are additive on these totals; OPEN, CLOSE and CLEAR are then equations between lists
  (`openAt_eq`, `clearAll_eq`, `period_eq`) whose totals are those of the parts.
-/
import BqlVerif.Model.Summarize
import BqlVerif.Proofs.InventoryLemmas
import BqlVerif.Proofs.SortLemmas
set_option autoImplicit false
namespace Bql.Summ
open Bql.C12

def psum (a : String) (k : LotKey) : List Posting → Int
  | [] => 0
  | p :: r => (if p.account = a ∧ p.key = k then p.num else 0) + psum a k r

theorem psum_append (a : String) (k : LotKey) (x y : List Posting) : psum a k (x ++ y) = psum a k x + psum a k y := by
  induction x with
  | nil => simp [psum]
  | cons p r ih => simp only [List.cons_append, psum, ih]; omega

def tsum (a : String) (k : LotKey) (es : List Txn) : Int := psum a k (es.flatMap (·.postings))

theorem tsum_nil (a : String) (k : LotKey) : tsum a k [] = 0 := rfl

theorem tsum_cons (a : String) (k : LotKey) (t : Txn) (es : List Txn) :
    tsum a k (t :: es) = psum a k t.postings + tsum a k es := by
  simp [tsum, psum_append]

theorem tsum_append (a : String) (k : LotKey) (x y : List Txn) : tsum a k (x ++ y) = tsum a k x + tsum a k y := by
  simp [tsum, psum_append]

def accounts (b : Balances) : List String := b.map (·.1)

theorem get_not_mem_acc (a : String) (b : Balances) (h : a ∉ accounts b) : b.get a = [] := by
  induction b with
  | nil => rfl
  | cons x rest ih =>
    obtain ⟨a0, i0⟩ := x
    simp only [accounts, List.map_cons, List.mem_cons, not_or] at h
    have h0 : ¬ a0 = a := fun e => h.1 e.symm
    simp only [Balances.get, h0, ↓reduceIte]
    exact ih h.2

theorem get_add (b : Balances) (p : Posting) (a : String) :
    (b.add p).get a = if p.account = a then (b.get a).addAmount p.key p.num else b.get a := by
  induction b with
  | nil => by_cases ha : p.account = a <;> simp [Balances.add, Balances.get, ha]
  | cons x rest ih =>
    obtain ⟨a0, i0⟩ := x
    by_cases h0 : a0 = p.account
    · subst h0
      by_cases ha : p.account = a <;> simp [Balances.add, Balances.get, ha]
    · by_cases ha0 : a0 = a
      · subst ha0
        simp [Balances.add, Balances.get, h0, Ne.symm h0]
      · simp [Balances.add, Balances.get, h0, ha0, ih]

theorem accounts_add (b : Balances) (p : Posting) :
    accounts (b.add p) = if p.account ∈ accounts b then accounts b else accounts b ++ [p.account] := by
  induction b with
  | nil => simp [Balances.add, accounts]
  | cons x rest ih =>
    obtain ⟨a0, i0⟩ := x
    by_cases h0 : a0 = p.account
    · simp [Balances.add, h0, accounts]
    · simp only [accounts, List.map_cons, List.mem_cons, Ne.symm h0, false_or] at ih ⊢
      simp only [Balances.add, h0, ↓reduceIte, List.map_cons, ih]
      split <;> rename_i h <;> simp [h]

theorem get_filter_pred (b : Balances) (pred : String → Bool) (a : String) :
    Balances.get (b.filter (fun p => pred p.1)) a = if pred a then Balances.get b a else [] := by
  induction b with
  | nil => simp [Balances.get]
  | cons x rest ih =>
    obtain ⟨a0, i0⟩ := x
    simp only [List.filter_cons]
    by_cases h0 : a0 = a
    · subst h0
      cases hp : pred a0 <;> simp [hp, Balances.get, ih]
    · cases pred a0 <;> simp [Balances.get, h0, ih]

/-! ### the totals a balances list holds

Everything from here on is said of the totals, `bsum`, and not of `Balances.get`: the totals are additive whether or not
accounts and lot keys occur once, so no invariant of the two nested dictionaries is needed. -/

def bsum (a : String) (k : LotKey) : Balances → Int
  | [] => 0
  | x :: r => (if x.1 = a then sumKey k x.2 else 0) + bsum a k r

theorem bsum_add (a : String) (k : LotKey) (b : Balances) (p : Posting) :
    bsum a k (b.add p) = bsum a k b + (if p.account = a ∧ p.key = k then p.num else 0) := by
  induction b with
  | nil =>
    simp only [Balances.add, bsum, sumKey_addAmount, sumKey_nil]
    by_cases ha : p.account = a <;> simp [ha]
  | cons x rest ih =>
    obtain ⟨a0, i0⟩ := x
    by_cases h0 : a0 = p.account
    · subst h0
      simp only [Balances.add, ↓reduceIte, bsum, sumKey_addAmount]
      by_cases ha : p.account = a <;> simp [ha] <;> omega
    · simp only [Balances.add, h0, ↓reduceIte, bsum, ih]; omega

theorem bsum_fold (a : String) (k : LotKey) (ps : List Posting) (b : Balances) :
    bsum a k (ps.foldl Balances.add b) = bsum a k b + psum a k ps := by
  induction ps generalizing b with
  | nil => simp [psum]
  | cons p rest ih => simp only [List.foldl_cons, ih, bsum_add, psum]; omega

theorem bsum_balanceByAccount (a : String) (k : LotKey) (d : Option Nat) (es : List Txn) :
    bsum a k (balanceByAccount d es) = tsum a k (before d es) := by
  simp [balanceByAccount, bsum_fold, bsum, tsum]

theorem bsum_perm (a : String) (k : LotKey) {b1 b2 : Balances} (h : b1.Perm b2) : bsum a k b1 = bsum a k b2 := by
  induction h with
  | nil => rfl
  | cons x _ ih => simp only [bsum, ih]
  | swap x y l => simp only [bsum]; omega
  | trans _ _ ih1 ih2 => exact ih1.trans ih2

theorem insertAcc_eq_ins : insertAcc = Sort.ins (fun x y => decide (x.1 ≤ y.1)) := by
  funext x l
  induction l with
  | nil => rfl
  | cons y ys ih => simp only [insertAcc, Sort.ins, ih, decide_eq_true_eq]

theorem sortByAccount_perm (b : Balances) : (sortByAccount b).Perm b := by
  rw [sortByAccount, insertAcc_eq_ins]
  exact Sort.perm_ssort _ b

theorem bsum_filter_nonempty (a : String) (k : LotKey) (b : Balances) :
    bsum a k (b.filter (fun p => !p.2.isEmpty)) = bsum a k b := by
  induction b with
  | nil => rfl
  | cons x rest ih =>
    obtain ⟨a0, i0⟩ := x
    cases i0 <;> simp [bsum, sumKey_nil, ih]

theorem bsum_filter_pred (a : String) (k : LotKey) (b : Balances) (pred : String → Bool) :
    bsum a k (b.filter (fun p => pred p.1)) = if pred a then bsum a k b else 0 := by
  induction b with
  | nil => simp [bsum]
  | cons x rest ih =>
    simp only [List.filter_cons]
    by_cases h0 : x.1 = a
    · subst h0
      cases hp : pred x.1 <;> simp [hp, bsum, ih]
    · cases pred x.1 <;> cases hpa : pred a <;> simp [hpa, bsum, ih, h0]

/-! ### entries generated from balances

`direction = false` is `direction = true` on the opposite balance, so the postings are looked at for `true` only, one
position (two postings) at a time. -/

theorem entry_false (date : Nat) (kind : TxnKind) (source account : String) (inv : Inv) :
    entryFromBalance date kind source false account inv =
      entryFromBalance date kind source true account (inv.map (fun p => (p.1, -p.2))) := rfl

theorem entry_postings_cons (date : Nat) (kind : TxnKind) (source account : String) (q : LotKey × Int) (qs : Inv) :
    (entryFromBalance date kind source true account (q :: qs)).postings =
      ⟨account, q.1, q.2⟩ :: ⟨source, (weight ⟨account, q.1, q.2⟩).1, -(weight ⟨account, q.1, q.2⟩).2⟩ ::
        (entryFromBalance date kind source true account qs).postings := rfl

theorem psum_entry (a : String) (k : LotKey) (date : Nat) (kind : TxnKind) (source account : String) (inv : Inv)
    (hs : a ≠ source) :
    psum a k (entryFromBalance date kind source true account inv).postings = if account = a then sumKey k inv else 0 := by
  induction inv with
  | nil => simp [entryFromBalance, psum, sumKey_nil]
  | cons q qs ih =>
    have hs' : ¬ source = a := fun e => hs e.symm
    rw [entry_postings_cons, psum, psum, ih, sumKey_cons]
    by_cases hacc : account = a <;> simp [hacc, hs']

theorem psum_entryFromBalance (a : String) (k : LotKey) (date : Nat) (kind : TxnKind) (source : String) (direction : Bool)
    (account : String) (inv : Inv) (hs : a ≠ source) :
    psum a k (entryFromBalance date kind source direction account inv).postings =
      if account = a then (if direction then sumKey k inv else - sumKey k inv) else 0 := by
  cases direction
  · rw [entry_false, psum_entry a k date kind source account _ hs, sumKey_neg]; simp
  · rw [psum_entry a k date kind source account _ hs]; simp

theorem tsum_entriesFromBalances (a : String) (k : LotKey) (date : Nat) (kind : TxnKind) (source : String) (direction : Bool)
    (b : Balances) (hs : a ≠ source) :
    tsum a k (entriesFromBalances date kind source direction b) = if direction then bsum a k b else - bsum a k b := by
  have hl : ∀ l : Balances, tsum a k (l.map (fun p => entryFromBalance date kind source direction p.1 p.2)) =
      if direction then bsum a k l else - bsum a k l := by
    intro l
    induction l with
    | nil => cases direction <;> simp [tsum_nil, bsum]
    | cons x rest ih =>
      simp only [List.map_cons, tsum_cons, ih, bsum, psum_entryFromBalance a k date kind source direction x.1 x.2 hs]
      cases direction <;> by_cases h0 : x.1 = a <;> simp [h0] <;> omega
  rw [entriesFromBalances, hl, bsum_filter_nonempty, bsum_perm a k (sortByAccount_perm b)]

/-- the counter-posting weighs the opposite of the posting: its lot is the weight's, which has no cost -/
theorem weight_counter (source : String) (p : Posting) :
    weight ⟨source, (weight p).1, -(weight p).2⟩ = ((weight p).1, -(weight p).2) := by
  unfold weight
  cases p.key.cost <;> rfl

theorem entryFromBalance_balanced {date : Nat} {kind : TxnKind} {source : String} {direction : Bool} {account : String} {inv : Inv} :
    (entryFromBalance date kind source direction account inv).balanced = true := by
  suffices h : ∀ inv, (entryFromBalance date kind source true account inv).residual = [] by
    cases direction
    · rw [entry_false, Txn.balanced, h]; rfl
    · rw [Txn.balanced, h]; rfl
  intro inv
  unfold Txn.residual invSum
  induction inv with
  | nil => rfl
  | cons q qs ih =>
    rw [entry_postings_cons, List.map_cons, List.map_cons, List.foldl_cons, List.foldl_cons, weight_counter, addAmount_cancel]
    exact ih

theorem entries_date {date : Nat} {kind : TxnKind} {source : String} {direction : Bool} {b : Balances} :
    ∀ t ∈ entriesFromBalances date kind source direction b, t.date = date ∧ t.kind = kind ∧ t.balanced = true := by
  intro t ht
  unfold entriesFromBalances at ht
  obtain ⟨p, _, rfl⟩ := List.mem_map.mp ht
  exact ⟨rfl, rfl, entryFromBalance_balanced⟩

theorem dropWhile_stops {α} (p : α → Bool) (x : List α) :
    (x.dropWhile p).takeWhile p = [] ∧ (x.dropWhile p).dropWhile p = x.dropWhile p := by
  have := List.head?_dropWhile_not p x
  cases h : x.dropWhile p with
  | nil => simp
  | cons e r =>
    rw [h] at this
    simp only [List.head?_cons] at this
    simp [this]

theorem mem_takeWhile_imp {α} (p : α → Bool) (x : List α) : ∀ e ∈ x.takeWhile p, p e = true :=
  List.all_eq_true.mp List.all_takeWhile

end Bql.Summ

/-! ### the three clauses

What `transfer_balances` and OPEN add is named (`transferEntries`, `openSummary`), so that the shape of a result is an
equation and its totals are those of the parts. -/

namespace Bql.C13
open Bql.Summ

abbrev ltDate (d : Nat) : Txn → Bool := fun t => decide (t.date < d)

def transferEntries (es : List Txn) (d : Option Nat) (pred : String → Bool) (account : String) : List Txn :=
  entriesFromBalances (match d with | some d => d - 1 | none => (es.getLast?.map (·.date)).getD 0) .transfer account false
    ((balanceByAccount d es).filter (fun p => pred p.1))

theorem transferBalances_eq (es : List Txn) (d : Option Nat) (pred : String → Bool) (account : String) :
    transferBalances es d pred account = before d es ++ transferEntries es d pred account ++ after d es := by
  cases es with
  | nil => cases d <;> rfl
  | cons t r => rfl

theorem tsum_transferEntries (a : String) (k : LotKey) (es : List Txn) (d : Option Nat) (pred : String → Bool) (account : String)
    (ha : a ≠ account) :
    tsum a k (transferEntries es d pred account) = if pred a then - tsum a k (before d es) else 0 := by
  unfold transferEntries
  rw [tsum_entriesFromBalances a k _ .transfer account false _ ha, bsum_filter_pred, bsum_balanceByAccount]
  cases pred a <;> simp

/-- entries generated for `d - 1` lie before every cut at `d` or later -/
theorem ltDate_entries {d e : Nat} (hd : 0 < d) (hde : d ≤ e) {kind : TxnKind} {source : String} {direction : Bool}
    {b : Balances} {x : Txn} (hx : x ∈ entriesFromBalances (d - 1) kind source direction b) : ltDate e x = true := by
  have := (entries_date x hx).1
  simp only [decide_eq_true_eq]; omega

/-- the transfers are dated `d - 1`, so a second cut at `d` falls where the first did -/
theorem transfer_split (es : List Txn) (d : Nat) (pred : String → Bool) (account : String) (hd : 0 < d) :
    before (some d) (transferBalances es (some d) pred account) = before (some d) es ++ transferEntries es (some d) pred account ∧
    after (some d) (transferBalances es (some d) pred account) = after (some d) es := by
  have hall : ∀ x ∈ before (some d) es ++ transferEntries es (some d) pred account, ltDate d x = true := fun x hx =>
    (List.mem_append.mp hx).elim (mem_takeWhile_imp (ltDate d) es x) (ltDate_entries hd (Nat.le_refl d))
  rw [transferBalances_eq]
  constructor
  · show List.takeWhile (ltDate d) (_ ++ List.dropWhile (ltDate d) es) = _
    rw [List.takeWhile_append_of_pos hall, (dropWhile_stops (ltDate d) es).1, List.append_nil]
  · show List.dropWhile (ltDate d) (_ ++ List.dropWhile (ltDate d) es) = _
    rw [List.dropWhile_append_of_pos hall]
    exact (dropWhile_stops (ltDate d) es).2

def openSummary (acc : Accounts) (es : List Txn) (d : Nat) : List Txn :=
  entriesFromBalances (d - 1) .summarize acc.opening true
    (balanceByAccount (some d) (transferBalances es (some d) acc.isIncomeStatement acc.earningsPrevious))

theorem openAt_eq (acc : Accounts) (es : List Txn) (d : Nat) (hd : 0 < d) :
    openAt acc es d = openSummary acc es d ++ es.dropWhile (ltDate d) := by
  unfold openAt summarizeAt
  rw [(transfer_split es d acc.isIncomeStatement acc.earningsPrevious hd).2]
  rfl

/-- what OPEN summarises: the balance before `d`, of which the transfers have taken the income-statement part away -/
theorem tsum_openSummary (acc : Accounts) (es : List Txn) (d : Nat) (hd : 0 < d) (a : String) (k : LotKey)
    (h2 : a ≠ acc.opening) (h3 : a ≠ acc.earningsPrevious) :
    tsum a k (openSummary acc es d) = if acc.isIncomeStatement a then 0 else tsum a k (es.takeWhile (ltDate d)) := by
  rw [openSummary, tsum_entriesFromBalances a k _ _ _ true _ h2, bsum_balanceByAccount,
    (transfer_split es d _ _ hd).1, tsum_append, tsum_transferEntries a k es _ _ _ h3]
  cases acc.isIncomeStatement a <;> simp [before] <;> omega

theorem clearAll_eq (acc : Accounts) (es : List Txn) :
    clearAll acc es = es ++ transferEntries es none acc.isIncomeStatement acc.earningsCurrent := by
  rw [clearAll, transferBalances_eq, before, after, List.append_nil]

theorem open_mem (acc : Accounts) (es : List Txn) (d : Nat) (hd : 0 < d) :
    ∀ t ∈ openAt acc es d, t ∈ es ∨ t.balanced = true := by
  intro t ht
  rw [openAt_eq acc es d hd] at ht
  rcases List.mem_append.mp ht with h | h
  · exact Or.inr (entries_date t h).2.2
  · exact Or.inl ((List.dropWhile_suffix _).subset h)

theorem close_mem (es : List Txn) (e : Option Nat) : ∀ t ∈ closeAt es e, t ∈ es := by
  intro t ht
  cases e with
  | none => exact ht
  | some e => exact (List.takeWhile_prefix _).subset ht

theorem clear_mem (acc : Accounts) (es : List Txn) : ∀ t ∈ clearAll acc es, t ∈ es ∨ t.balanced = true := by
  intro t ht
  rw [clearAll_eq] at ht
  exact (List.mem_append.mp ht).imp_right fun h => (entries_date t h).2.2

theorem period_eq (acc : Accounts) (es : List Txn) (d e : Nat) (hd : 0 < d) (hde : d ≤ e) :
    prepare acc es (some d) (some (some e)) false =
      openSummary acc es d ++ (es.dropWhile (ltDate d)).takeWhile (ltDate e) := by
  show List.takeWhile (ltDate e) (openAt acc es d) = _
  rw [openAt_eq acc es d hd, List.takeWhile_append_of_pos]
  exact fun x => ltDate_entries hd hde

theorem takeWhile_split (es : List Txn) (d e : Nat) (hde : d ≤ e) :
    es.takeWhile (ltDate e) = es.takeWhile (ltDate d) ++ (es.dropWhile (ltDate d)).takeWhile (ltDate e) := by
  conv => lhs; rw [← List.takeWhile_append_dropWhile (p := ltDate d) (l := es)]
  apply List.takeWhile_append_of_pos
  intro x hx
  have := mem_takeWhile_imp (ltDate d) es x hx
  simp only [decide_eq_true_eq] at this ⊢
  omega

theorem prepare_clear (acc : Accounts) (es : List Txn) (o : Option Nat) (c : Option (Option Nat)) :
    prepare acc es o c true = clearAll acc (prepare acc es o c false) := by
  simp only [prepare, ↓reduceIte, Bool.false_eq_true]

end Bql.C13
