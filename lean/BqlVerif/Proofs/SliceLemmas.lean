/-
  Python's slice `xs[a:b]`: both bounds go through one index normalisation, `pyNorm`; for bounds that are natural numbers
  the slice is `drop`/`take`, in or out of range.
-/
import BqlVerif.Model.Sem
set_option autoImplicit false
namespace Bql

def pyNorm (n : Nat) (i : Int) : Nat := (if i < 0 then max (i + n) 0 else min i n).toNat

theorem pySlice_eq {α : Type} (xs : List α) (a b : Int) :
    pySlice xs a b = (xs.drop (pyNorm xs.length a)).take (pyNorm xs.length b - pyNorm xs.length a) := rfl

theorem pyNorm_nat (n i : Nat) : pyNorm n i = min i n := by
  unfold pyNorm; rw [if_neg (by omega)]; omega

theorem pyNorm_neg (n i : Nat) (h : 0 < i) : pyNorm n (-(i : Int)) = n - i := by
  unfold pyNorm; rw [if_pos (by omega)]; omega

theorem pySlice_nat {α : Type} (xs : List α) (a b : Nat) : pySlice xs a b = (xs.drop a).take (b - a) := by
  rw [pySlice_eq, pyNorm_nat, pyNorm_nat]
  by_cases h : a ≤ xs.length
  · -- two takes of one list agree when their counts agree once capped at its length (`take_eq_take_iff`)
    rw [Nat.min_eq_left h, List.take_eq_take_iff, List.length_drop, Nat.sub_min_sub_right, Nat.sub_min_sub_right,
      Nat.min_assoc, Nat.min_self]
  · rw [List.drop_eq_nil_of_le (by omega), List.drop_eq_nil_of_le (by omega), List.take_nil, List.take_nil]

end Bql
