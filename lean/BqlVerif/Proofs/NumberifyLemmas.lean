/-
  The currency census of numberify is the grouped count of `AggLemmas`: `bump` is its upsert.
-/
import BqlVerif.Model.Numberify
import BqlVerif.Proofs.AggLemmas
set_option autoImplicit false
namespace Bql.C17

/-- `bump` is the insertion-ordered-dict update of the aggregation loop, counting from 0 -/
theorem bump_eq_upsert (cur : String) (m : List (String × Nat)) :
    bump cur m = Agg.upsert (· == ·) cur (· + 1) 0 m := by
  induction m with
  | nil => rfl
  | cons p rest ih => obtain ⟨c, n⟩ := p; rw [bump, Agg.upsert, ih]

/-- **The census is a grouped count**: the currencies of the column in order of first appearance,
    each with the number of times a cell contributes it. -/
theorem census_eq (k : NKind) (cells : List NCell) :
    census k cells = Agg.aggSpec (· == ·) id (fun _ n => n + 1) 0 (cells.flatMap (cellCurrencies k)) := by
  rw [← Agg.agg_refines _ Agg.beq_eqv, Agg.aggImpl, List.foldl_flatMap, census]
  simp only [bump_eq_upsert, id]

end Bql.C17
