/-
  The multi-pass ORDER BY loop equals one stable sort by the lexicographic comparator `lexLt`:
  every pass compares by `lexLt` of its own keys, and the order of `S ++ R` is the lexicographic
  combination of the orders of `S` and `R`.
-/
import BqlVerif.Proofs.KeyOrder
set_option autoImplicit false
namespace Bql
open Bql.Sort

/-- the lexicographic strict comparator of an ORDER BY specification `(index, descending)` -/
def lexLt : List (Nat × Bool) → Row → Row → Bool
  | [], _, _ => false
  | (i, desc) :: rest, a, b =>
    if keyEqv (a.getD i .null) (b.getD i .null) then lexLt rest a b
    else if desc then keyLt (b.getD i .null) (a.getD i .null) else keyLt (a.getD i .null) (b.getD i .null)

/-- strict comparator of one pass: tuple comparison, converse when `reverse=True` -/
def segLt (d : Bool) (is : List Nat) (a b : Row) : Bool :=
  if d then tupleLt is b a else tupleLt is a b

theorem keyEqv_symm (x y : Value) : keyEqv x y = keyEqv y x := by simp [keyEqv, Bool.and_comm]

theorem lexLt_cons (i : Nat) (d : Bool) (rest : List (Nat × Bool)) (a b : Row) :
    lexLt ((i, d) :: rest) a b =
      if keyEqv (a.getD i .null) (b.getD i .null) then lexLt rest a b
      else if d then keyLt (b.getD i .null) (a.getD i .null) else keyLt (a.getD i .null) (b.getD i .null) := rfl

theorem segLt_eq_lexLt (d : Bool) (is : List Nat) : segLt d is = lexLt (is.map (fun i => (i, d))) := by
  funext a b
  induction is with
  | nil => cases d <;> rfl
  | cons i is ih =>
    rw [List.map_cons, lexLt_cons, ← ih]
    cases d
    · rfl
    · simp only [segLt, tupleLt, keyEqv_symm (b.getD i .null), ↓reduceIte]

theorem sortPass_eq (is : List Nat) (d : Bool) (rows : List Row) :
    sortPass is d rows = ssort (leOf (lexLt (is.map (fun i => (i, d))))) rows := by
  rw [← segLt_eq_lexLt, ← stableSort_eq_ssort]
  cases d <;> rfl

theorem keyLt_of_not_eqv (x y : Value) (h : keyEqv x y = false) (h2 : keyLt x y = false) : keyLt y x = true := by
  simp [keyEqv, h2] at h
  exact h

theorem leOf_lexLt_append (S R : List (Nat × Bool)) :
    leOf (lexLt (S ++ R)) = lex (leOf (lexLt S)) (leOf (lexLt R)) := by
  funext a b
  induction S with
  | nil => rfl
  | cons k S ih =>
    obtain ⟨i, d⟩ := k
    simp only [leOf, lex, List.cons_append, lexLt_cons, keyEqv_symm (b.getD i .null)] at ih ⊢
    by_cases he : keyEqv (a.getD i .null) (b.getD i .null) = true
    · simp only [he, if_true]; exact ih
    · -- the keys differ, so one of the two strict comparisons holds and `lex` takes its major branch
      have hk : ∀ p q : Bool, ¬ (!p && !q) = true → (!(if d then p else q) && !(if d then q else p)) = false := by
        cases d <;> decide
      simp only [he, if_false, hk _ _ he, Bool.false_eq_true]

/-- one key: the order of that column, converse when descending (equivalent keys are smaller neither way) -/
theorem lexLt_single (i : Nat) (d : Bool) (a b : Row) :
    lexLt [(i, d)] a b =
      if d then keyLt (b.getD i .null) (a.getD i .null) else keyLt (a.getD i .null) (b.getD i .null) := by
  rw [lexLt_cons, keyEqv]
  cases d <;> cases keyLt (a.getD i .null) (b.getD i .null) <;> cases keyLt (b.getD i .null) (a.getD i .null) <;> rfl

theorem keyLe_totalPre (i : Nat) (d : Bool) : TotalPre (leOf (lexLt [(i, d)])) := by
  rw [show lexLt [(i, d)] = _ from funext fun a => funext fun b => lexLt_single i d a b]
  cases d
  · exact totalPre_of_swo (fun _ _ => keyLt_asymm _ _) (fun _ _ _ => keyLt_negTrans _ _ _)
  · exact totalPre_of_swo (fun _ _ => keyLt_asymm _ _) (fun _ _ _ h => (keyLt_negTrans _ _ _ h).symm)

theorem leOf_lexLt_nil : leOf (lexLt []) = fun (_ _ : Row) => true := rfl

/-- total preorders compose lexicographically (`lex_total`), one key at a time -/
theorem lexLe_totalPre (R : List (Nat × Bool)) : TotalPre (leOf (lexLt R)) := by
  induction R with
  | nil => exact ⟨fun _ _ => Or.inl rfl, fun _ _ _ _ _ => rfl⟩
  | cons k R ih =>
    rw [show k :: R = [k] ++ R from rfl, leOf_lexLt_append]
    exact lex_total (keyLe_totalPre k.1 k.2) ih

/-- the ORDER BY keys `(index, descending)` that one run of `runs` stands for -/
def passKeys (p : Bool × List Nat) : List (Nat × Bool) := p.2.map (fun i => (i, p.1))

/-- folding the passes in processing order: the *last* pass is the major key -/
theorem fold_passes (P : List (Bool × List Nat)) (R : List (Nat × Bool)) (rows : List Row) :
    P.foldl (fun rs run => sortPass run.2.reverse run.1 rs) (ssort (leOf (lexLt R)) rows) =
      ssort (leOf (lexLt ((P.flatMap passKeys).reverse ++ R))) rows := by
  induction P generalizing R with
  | nil => rfl
  | cons p P ih =>
    rw [List.foldl_cons, sortPass_eq, two_pass (lexLe_totalPre _) (lexLe_totalPre R), ← leOf_lexLt_append, ih,
      List.flatMap_cons, List.reverse_append, List.append_assoc, passKeys, List.map_reverse]

theorem runs_flatten (l : List (Nat × Bool)) : (runs l).flatMap passKeys = l := by
  induction l with
  | nil => rfl
  | cons k rest ih =>
    obtain ⟨i, d⟩ := k
    -- the key joins the first run of the rest (same direction) or opens a run of its own
    rw [runs]
    conv => rhs; rw [← ih]
    cases runs rest with
    | nil => rfl
    | cons q more =>
      dsimp only
      split
      · rename_i h; cases eq_of_beq h; rfl
      · rfl

theorem orderBy_eq (spec : List (Nat × Bool)) (rows : List Row) :
    orderBy spec rows = stableSort (lexLt spec) rows := by
  have h0 : rows = ssort (leOf (lexLt [])) rows := by rw [leOf_lexLt_nil, ssort_trivial]
  unfold orderBy
  conv => lhs; rw [h0]
  rw [fold_passes, runs_flatten, List.reverse_reverse, List.append_nil, stableSort_eq_ssort]

end Bql
