/-
  Ledger tables in closed form: each walks the ledger once, numbering the directives, and concatenates
  what each directive yields; `insertSorted` as a set insertion.
-/
import BqlVerif.Model.Ledger
set_option autoImplicit false
namespace Bql.C11

theorem postingsRowsFrom_eq (i : Nat) (l : Ledger) :
    postingsRowsFrom i l = (l.zipIdx i).flatMap fun p =>
      if p.1.kind = .transaction then (List.range p.1.postings.length).map (fun j => (p.2, j)) else [] := by
  induction l generalizing i with
  | nil => rfl
  | cons d rest ih => simp only [postingsRowsFrom, ih, List.zipIdx_cons, List.flatMap_cons]

theorem typedRowsFrom_eq (k : DirKind) (i : Nat) (l : Ledger) :
    typedRowsFrom k i l = (l.zipIdx i).flatMap fun p => if p.1.kind = k then [p.2] else [] := by
  induction l generalizing i with
  | nil => rfl
  | cons d rest ih => simp only [typedRowsFrom, ih, List.zipIdx_cons, List.flatMap_cons]

theorem mem_insertSorted (x y : String) (l : List String) : y ∈ insertSorted x l ↔ y = x ∨ y ∈ l := by
  induction l with
  | nil => simp [insertSorted]
  | cons z zs ih =>
    unfold insertSorted
    split
    · simp
    · split
      · rename_i hxz; subst hxz; simp
      · simp only [List.mem_cons, ih]; exact or_left_comm

theorem mem_foldr_insertSorted (a : String) (l : List String) : a ∈ l.foldr insertSorted [] ↔ a ∈ l := by
  induction l with
  | nil => rfl
  | cons x xs ih => rw [List.foldr_cons, mem_insertSorted, ih, List.mem_cons]

end Bql.C11
