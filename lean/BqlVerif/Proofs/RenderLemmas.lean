/-
  Lengths in the text layout (Model/Render.lean).  Padding never cuts, so a padded or centred string is as long as the
  wider of the width asked for and the string; a framed row is as long as its frame, its cells and its separators.
  With these the width statements of C16 are arithmetic.
-/
import BqlVerif.Model.Render
set_option autoImplicit false
namespace Bql.Render

theorem length_spaces (n : Nat) : (spaces n).length = n := List.length_replicate

theorem length_ljust (w : Nat) (s : Str) : (ljust w s).length = max w s.length := by
  simp only [ljust, List.length_append, length_spaces]; omega

theorem length_rjust (w : Nat) (s : Str) : (rjust w s).length = max w s.length := by
  simp only [rjust, List.length_append, length_spaces]; omega

theorem length_padCell (w : Nat) (right : Bool) (x : Str) : (padCell w right x).length = max w x.length := by
  cases right
  · exact length_ljust w x
  · exact length_rjust w x

theorem center_shape (w : Nat) (s : Str) :
    ∃ l r, center w s = spaces l ++ s ++ spaces r ∧ l + r = w - s.length ∧ (l = r ∨ l = r + 1 ∨ l + 1 = r) := by
  unfold center
  generalize w - s.length = marg
  refine ⟨_, _, rfl, ?_, ?_⟩ <;> split <;> rename_i hc <;> simp only [Bool.and_eq_true, beq_iff_eq] at hc <;> omega

theorem length_center (w : Nat) (s : Str) : (center w s).length = max w s.length := by
  obtain ⟨l, r, e, hlr, _⟩ := center_shape w s
  simp only [e, List.length_append, length_spaces]; omega

theorem fmtDecParts_eq (nI width : Nat) (ip fp : Str) :
    fmtDecParts nI width ip fp =
      (spaces (nI - ip.length) ++ ip) ++ (fp ++ spaces (width - (nI - ip.length) - (ip ++ fp).length)) := by
  simp [fmtDecParts, ljust, List.append_assoc]

theorem joinSep_cons (sep x : Str) {l : List Str} (h : l ≠ []) : joinSep sep (x :: l) = x ++ sep ++ joinSep sep l := by
  cases l with
  | nil => exact absurd rfl h
  | cons _ _ => rfl

theorem length_joinSep (sep : Str) (cells : List Str) :
    (joinSep sep cells).length = (cells.map List.length).sum + (cells.length - 1) * sep.length := by
  induction cells with
  | nil => simp [joinSep]
  | cons x rest ih =>
    cases rest with
    | nil => simp [joinSep]
    | cons y ys =>
      simp only [joinSep_cons sep x (List.cons_ne_nil y ys), List.length_append, ih, List.map_cons, List.sum_cons,
        List.length_cons, Nat.add_sub_cancel, Nat.add_mul, Nat.one_mul]
      omega

theorem length_framed (pre sep post : Str) (cells : List Str) :
    (pre ++ joinSep sep cells ++ post).length =
      pre.length + (cells.map List.length).sum + (cells.length - 1) * sep.length + post.length := by
  simp only [List.length_append, length_joinSep]; omega

theorem length_line (st : Style) (cells : List Str) :
    (line st cells).length = st.pre.length + (cells.map List.length).sum + (cells.length - 1) * st.sep.length + st.post.length :=
  length_framed st.pre st.sep st.post cells

theorem length_rule (r : Str × Str × Str × Char) (widths : List Nat) :
    (rule r widths).length = r.1.length + widths.sum + (widths.length - 1) * r.2.1.length + r.2.2.1.length := by
  rw [rule, length_framed, List.map_map, List.length_map]
  simp only [Function.comp_def, List.length_replicate, List.map_id']

theorem joinSep_head (sep x : Str) (l : List Str) : joinSep sep (x :: l) = x ++ l.flatMap (sep ++ ·) := by
  induction l generalizing x with
  | nil => simp [joinSep]
  | cons y ys ih => rw [joinSep_cons sep x (List.cons_ne_nil y ys), ih]; simp [List.append_assoc]

theorem joinSep_split (sep : Str) (a : List Str) (c : Str) (b : List Str) :
    joinSep sep (a ++ c :: b) = a.flatMap (· ++ sep) ++ c ++ b.flatMap (sep ++ ·) := by
  induction a with
  | nil => simp [joinSep_head]
  | cons x xs ih => rw [List.cons_append, joinSep_cons sep x (by simp), ih]; simp [List.append_assoc]

theorem padded_lengths (cells : List Str) (ws : List (Nat × Bool)) (h : cells.length = ws.length)
    (hfit : ∀ p ∈ cells.zip ws, p.1.length ≤ p.2.1) :
    ((cells.zip ws).map (fun p => padCell p.2.1 p.2.2 p.1)).map List.length = ws.map (·.1) := by
  rw [List.map_map]
  conv => rhs; rw [← List.map_snd_zip (l₁ := cells) (l₂ := ws) (by omega), List.map_map]
  exact List.map_congr_left fun p hp => by simp only [Function.comp_def, length_padCell, Nat.max_eq_left (hfit p hp)]

theorem expandRow_width (cells : List Cell) : ∀ l ∈ expandRow cells, l.length = cells.length := by
  intro l hl
  unfold expandRow at hl
  split at hl
  · obtain ⟨k, _, rfl⟩ := List.mem_map.mp hl
    exact List.length_map _
  · rw [List.mem_singleton.mp hl]; exact List.length_map _

end Bql.Render
