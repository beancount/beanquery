/-
  The parser maps the tokens of a well-formed layered tree to its abstract syntax tree, for every
  large enough fuel: one mutual induction over layered trees.  The left-recursive levels (`sum`,
  `term`, `primary`) are stated in continuation form: whatever the loop yields from the tree read so
  far, the level's parser yields from its tokens.  The round trip of the four kinds of statement (`rt_stmt`)
  follows from it.
-/
import BqlVerif.Proofs.ParserStages
set_option autoImplicit false
namespace Bql.Syn

/-! ### from the continuation form to the round trip: the loop stops at `rest` -/

theorem prim_of_K {p : LPrim} {rest : List Tok} (hf : Follow 0 rest)
    (K : ∀ r, NoCall rest → Ev (fun m => postfixLoop m (embedPrim p) rest) r → Ev (fun m => parsePrimary m (printPrim p ++ rest)) r) :
    Ev (fun m => parsePrimary m (printPrim p ++ rest)) (embedPrim p, rest) :=
  K _ (NoCall.of_follow hf) (ev_postfix_done _ rest hf)

theorem term_of_K {t : LTerm} {rest : List Tok} (hf : Follow 1 rest)
    (K : ∀ r, Follow 0 rest → Ev2 (fun a b => binLoop mulOpOf (parseFactor a) b (embedTerm t) rest) r →
      Ev (fun m => parseTerm m (printTerm t ++ rest)) r) :
    Ev (fun m => parseTerm m (printTerm t ++ rest)) (embedTerm t, rest) :=
  K _ (hf.mono (by omega)) (ev2_mulLoop_done _ rest hf)

theorem sum_of_K {s : LSum} {rest : List Tok} (hf : Follow 2 rest)
    (K : ∀ r, Follow 1 rest → Ev2 (fun a b => binLoop addOpOf (parseTerm a) b (embedSum s) rest) r →
      Ev (fun m => parseSum m (printSum s ++ rest)) r) :
    Ev (fun m => parseSum m (printSum s ++ rest)) (embedSum s, rest) :=
  K _ (hf.mono (by omega)) (ev2_addLoop_done _ rest hf)

theorem printSelect_head (s : LSelect) : ∃ r, printSelect s = .word "select" :: r := by
  cases s
  exact ⟨_, printSelect_eq ..⟩

-- every `by simp` side goal below computes the level of a literal head token
attribute [local simp] Follow CFollow tokLevel wordLevel clauseLevel

/- Every recursive call below is on a constructor argument laid open by a pattern or by `cases`.  A call under a
   hypothesis such as `w = some e` is not recognised as structural; Lean then compiles the whole block by well-founded
   recursion without a word, and checking it costs eight times as much. -/
mutual

theorem rt_expr : (e : LExpr) → wfExpr e → ∀ (rest : List Tok), Follow 5 rest →
    Ev (fun m => parseExpr m (printExpr e ++ rest)) (embedExpr e, rest)
  | .mk h tl, hw, rest, hf =>
    (Evp.and (rt_conj h hw.1 (printOrTail tl ++ rest) (follow_orTail tl rest hf)) (rt_orTail tl hw.2 rest [embedConj h] hf).diag).step
      fun m ⟨h1, h2⟩ => by
        simp only [printExpr, List.append_assoc, parseExpr, h1, h2]
        cases tl <;> rfl

theorem rt_orTail : (tl : List LConj) → wfConjs tl → ∀ (rest : List Tok) (acc : List Expr), Follow 5 rest →
    Ev2 (fun a b => sepLoop "or" (parseConj a) b acc (printOrTail tl ++ rest)) (acc ++ embedConjs tl, rest)
  | [], _, rest, acc, hf => by simpa [printOrTail, embedConjs] using ev2_orLoop_done acc rest hf
  | c :: cs, hw, rest, acc, hf => by
    have := ev2_sepLoop_step (rt_conj c hw.1 (printOrTail cs ++ rest) (follow_orTail cs rest hf))
      (rt_orTail cs hw.2 rest (acc ++ [embedConj c]) hf)
    simpa only [printOrTail, embedConjs, List.cons_append, List.nil_append, List.append_assoc] using this

theorem rt_conj : (c : LConj) → wfConj c → ∀ (rest : List Tok), Follow 4 rest →
    Ev (fun m => parseConj m (printConj c ++ rest)) (embedConj c, rest)
  | .mk h tl, hw, rest, hf =>
    (Evp.and (rt_inv h hw.1 (printAndTail tl ++ rest) (follow_andTail tl rest hf)) (rt_andTail tl hw.2 rest [embedInv h] hf).diag).step
      fun m ⟨h1, h2⟩ => by
        simp only [printConj, List.append_assoc, parseConj, h1, h2]
        cases tl <;> rfl

theorem rt_andTail : (tl : List LInv) → wfInvs tl → ∀ (rest : List Tok) (acc : List Expr), Follow 4 rest →
    Ev2 (fun a b => sepLoop "and" (parseInv a) b acc (printAndTail tl ++ rest)) (acc ++ embedInvs tl, rest)
  | [], _, rest, acc, hf => by simpa [printAndTail, embedInvs] using ev2_andLoop_done acc rest hf
  | c :: cs, hw, rest, acc, hf => by
    have := ev2_sepLoop_step (rt_inv c hw.1 (printAndTail cs ++ rest) (follow_andTail cs rest hf))
      (rt_andTail cs hw.2 rest (acc ++ [embedInv c]) hf)
    simpa only [printAndTail, embedInvs, List.cons_append, List.nil_append, List.append_assoc] using this

theorem rt_inv : (i : LInv) → wfInv i → ∀ (rest : List Tok), Follow 3 rest →
    Ev (fun m => parseInv m (printInv i ++ rest)) (embedInv i, rest)
  | .not j, hw, rest, hf =>
    Evp.step (rt_inv j hw rest hf) fun m h1 => by
      simp only [printInv, List.cons_append, parseInv, stripWord_hit, h1, embedInv]
  | .cmp c, hw, rest, hf =>
    Evp.step (rt_cmp c hw rest hf) fun m h1 => by
      simp only [printInv, parseInv, stripNot_miss (headOK_append rest (good_cmp c hw).1), h1, embedInv]

theorem rt_cmp : (c : LCmp) → wfCmp c → ∀ (rest : List Tok), Follow 3 rest →
    Ev (fun m => parseCmp m (printCmp c ++ rest)) (embedCmp c, rest)
  | .sum s, hw, rest, hf =>
    Evp.step (sum_of_K (hf.mono (by omega)) (sumK s hw rest)) fun m h1 => by
      simp only [printCmp, parseCmp, h1, cmpAct_none rest hf, embedCmp]
  | .bin op l r, hw, rest, hf =>
    (Evp.and (sum_of_K (follow_toks op) (sumK l hw.1 (op.toks ++ (printSum r ++ rest))))
        (sum_of_K (hf.mono (by omega)) (sumK r hw.2 rest))).step fun m ⟨h1, h2⟩ => by
      simp only [printCmp, List.append_assoc, parseCmp, h1, cmpAct_op]
      cases op <;> simp [h2, embedCmp, CmpOp.op]
  | .isnull s, hw, rest, hf =>
    Evp.step (sum_of_K (by simp) (sumK s hw (.word "is" :: .word "null" :: rest))) fun m h1 => by
      simp only [printCmp, List.append_assoc, List.cons_append, List.nil_append, parseCmp, h1]
      simp [cmpAct, isW, embedCmp]
  | .isnotnull s, hw, rest, hf =>
    Evp.step (sum_of_K (by simp) (sumK s hw (.word "is" :: .word "not" :: .word "null" :: rest))) fun m h1 => by
      simp only [printCmp, List.append_assoc, List.cons_append, List.nil_append, parseCmp, h1]
      simp [cmpAct, isW, embedCmp]
  | .between s lo hi, hw, rest, hf =>
    (Evp.and (sum_of_K (by simp) (sumK s hw.1 (.word "between" :: (printSum lo ++ .word "and" :: (printSum hi ++ rest)))))
        (Evp.and (sum_of_K (by simp) (sumK lo hw.2.1 (.word "and" :: (printSum hi ++ rest))))
          (sum_of_K (hf.mono (by omega)) (sumK hi hw.2.2 rest)))).step fun m ⟨h1, h2, h3⟩ => by
      simp only [printCmp, List.append_assoc, List.cons_append, parseCmp, h1]
      simp [cmpAct, isW, h2, stripWord_hit, h3, embedCmp]

theorem sumK : (s : LSum) → wfSum s → ∀ (rest : List Tok) (r : Expr × List Tok), Follow 1 rest →
    Ev2 (fun a b => binLoop addOpOf (parseTerm a) b (embedSum s) rest) r →
    Ev (fun m => parseSum m (printSum s ++ rest)) r
  | .term t, hw, rest, r, hf, h0 =>
    (Evp.and (term_of_K hf (termK t hw rest)) h0.diag).step fun m ⟨h1, h2⟩ => by
      simp only [printSum, parseSum, h1]
      exact h2
  | .bin op s t, hw, rest, r, hf, h0 => by
    have := sumK s hw.1 (op.tok :: (printTerm t ++ rest)) r (follow_sumop op)
      (ev2_binLoop_step (addOpOf_sumop op) (term_of_K hf (termK t hw.2 rest)) h0)
    simpa only [printSum, List.append_assoc, List.cons_append] using this

theorem termK : (t : LTerm) → wfTerm t → ∀ (rest : List Tok) (r : Expr × List Tok), Follow 0 rest →
    Ev2 (fun a b => binLoop mulOpOf (parseFactor a) b (embedTerm t) rest) r →
    Ev (fun m => parseTerm m (printTerm t ++ rest)) r
  | .factor f, hw, rest, r, hf, h0 =>
    (Evp.and (rt_factor f hw rest hf) h0.diag).step fun m ⟨h1, h2⟩ => by
      simp only [printTerm, parseTerm, h1]
      exact h2
  | .bin op t f, hw, rest, r, hf, h0 => by
    have := termK t hw.1 (op.tok :: (printFactor f ++ rest)) r (follow_termop op)
      (ev2_binLoop_step (mulOpOf_termop op) (rt_factor f hw.2 rest hf) h0)
    simpa only [printTerm, List.append_assoc, List.cons_append] using this

theorem rt_factor : (f : LFactor) → wfFactor f → ∀ (rest : List Tok), Follow 0 rest →
    Ev (fun m => parseFactor m (printFactor f ++ rest)) (embedFactor f, rest)
  | .paren e, hw, rest, _ =>
    Evp.step (rt_expr e hw (.sym .rparen :: rest) (by simp)) fun m h1 => by
      simp only [printFactor, List.cons_append, List.append_assoc, List.nil_append, parseFactor,
        factorAct_paren ((good_expr e hw).append (rest := .sym .rparen :: rest) (by simp)).2, h1, embedFactor]
  | .parenSel s, hw, rest, _ => by
    obtain ⟨r, hr⟩ := printSelect_head s
    have h1 := rt_select s hw (.sym .rparen :: rest) (by simp)
    simp only [hr, List.cons_append] at h1
    have hA : Ev (fun m => parseAtom m (.word "select" :: (r ++ .sym .rparen :: rest))) (.sub (embedSelect s), .sym .rparen :: rest) :=
      Evp.step h1 fun m h => by simp [parseAtom, atomAct, h]
    refine Evp.step (passthrough rfl (by simp [stripWord, isW]) (by simp) hA) fun m h => ?_
    simp only [printFactor, hr, List.cons_append, List.append_assoc, List.nil_append, parseFactor,
      factorAct_paren (noLitComma_nonlit (.word "select") _ (by decide)), h, embedFactor]
  | .neg g, hw, rest, hf =>
    Evp.step (rt_factor g hw rest hf) fun m h1 => by
      simp only [printFactor, List.cons_append, parseFactor, factorAct, h1, embedFactor]
  | .uplus a, hw, rest, hf =>
    Evp.step (rt_atom a hw rest (NoCall.of_follow hf)) fun m h1 => by
      simp only [printFactor, List.cons_append, parseFactor, factorAct, h1, embedFactor]
  | .prim p, hw, rest, hf =>
    Evp.step (prim_of_K hf (primK p hw rest)) fun m h1 => by
      simp only [printFactor, parseFactor, factorAct_prim (primStart_append rest (good_prim p hw).2), h1, embedFactor]

theorem primK : (p : LPrim) → wfPrim p → ∀ (rest : List Tok) (r : Expr × List Tok), NoCall rest →
    Ev (fun m => postfixLoop m (embedPrim p) rest) r →
    Ev (fun m => parsePrimary m (printPrim p ++ rest)) r
  | .atom a, hw, rest, r, hc, h0 =>
    (Evp.and (rt_atom a hw rest hc) h0).step fun m ⟨h1, h2⟩ => by
      simp only [printPrim, parsePrimary, h1]
      exact h2
  | .attr p n, hw, rest, r, _, h0 => by
    have := primK p hw.1 (.sym .dot :: .word n :: rest) r trivial
      (Evp.step h0 fun m h => by simp only [postfixLoop, kw_of_ident hw.2, Bool.false_eq_true, ↓reduceIte]; exact h)
    simpa only [printPrim, List.append_assoc, List.cons_append, List.nil_append] using this
  | .sub p key, hw, rest, r, _, h0 => by
    have := primK p hw (.sym .lbrack :: .str key :: .sym .rbrack :: rest) r trivial
      (Evp.step h0 fun m h => by simp only [postfixLoop]; exact h)
    simpa only [printPrim, List.append_assoc, List.cons_append, List.nil_append] using this

theorem rt_atom : (a : LAtom) → wfAtom a → ∀ (rest : List Tok), NoCall rest →
    Ev (fun m => parseAtom m (printAtom a ++ rest)) (embedAtom a, rest)
  | .col n, hw, rest, hc => by
    have hi := col_ident n hw
    have hk := kw_of_ident hi
    have hn : n ≠ "null" := by simpa [wfAtom, colOK, hk] using hw
    exact Ev.of_succ fun m => by
      simp only [printAtom, List.cons_append, List.nil_append, parseAtom, atomAct_word n rest (ident_not_select n hi) hc,
        litOfTok_word_none n hk hn, hk, Bool.false_eq_true, ↓reduceIte, embedAtom]
  | .lit l, hw, rest, hc =>
    Ev.of_succ fun m => by
      cases l with
      | null => simp [printAtom, Lit.tok, parseAtom, atomAct_word "null" rest (by decide) hc, litOfTok, embedAtom, Lit.value]
      | bool b =>
        cases b
        · simp [printAtom, Lit.tok, parseAtom, atomAct_word "false" rest (by decide) hc, litOfTok, embedAtom, Lit.value]
        · simp [printAtom, Lit.tok, parseAtom, atomAct_word "true" rest (by decide) hc, litOfTok, embedAtom, Lit.value]
      | date d =>
        have hv : d.valid = true := hw
        simp [printAtom, Lit.tok, parseAtom, atomAct, isLitTok, litOfTok, embedAtom, Lit.value, hv]
      | _ => simp [printAtom, Lit.tok, parseAtom, atomAct, isLitTok, litOfTok, embedAtom, Lit.value]
  | .list first items, hw, rest, _ => by
    obtain ⟨hf, hi, hne⟩ := hw
    cases items with
    | nil => exact absurd rfl hne
    | cons x xs =>
      refine Ev.of_succ fun m => ?_
      simp only [printAtom, printListItems_cons, List.cons_append, parseAtom, atomAct, lit_tok_isLit, ↓reduceIte, litOfTok_lit first hf]
      rw [List.append_assoc, listItems_print xs x [first.value] rest _ hi
        (by have := printListItems_length xs; simp only [List.length_append]; omega)]
      simp [embedAtom]
  | .func n args, hw, rest, _ => by
    have hk := kw_of_ident hw.1
    cases args with
    | nil =>
      exact Ev.of_succ fun m => by simp [printAtom, printArgs, parseAtom, atomAct, ident_not_select n hw.1, hk, embedAtom, embedArgs]
    | cons e es =>
      have hh : headOKE (printArgs (e :: es) ++ rest) = true := by
        cases es <;> simpa [printArgs, List.append_assoc] using expr_head e hw.2.1 _
      exact Evp.step (rt_args (e :: es) (by simp) hw.2 rest) fun m h1 => by
        simp only [printAtom, List.cons_append, parseAtom, atomAct_func n (ident_not_select n hw.1) hh, hk, Bool.false_eq_true,
          ↓reduceIte, dropLeadComma_headOKE hh, h1, embedAtom]
  | .funcStar n, hw, rest, _ =>
    Ev.of_succ fun m => by simp [printAtom, parseAtom, atomAct, ident_not_select n hw, kw_of_ident hw, embedAtom]
  | .ph n, hw, rest, _ =>
    Ev.of_succ fun m => by
      cases n with
      | none => simp [printAtom, parseAtom, atomAct, embedAtom]
      | some w => simp [printAtom, parseAtom, atomAct, kw_of_ident hw, embedAtom]

theorem rt_args : (args : List LExpr) → args ≠ [] → wfArgs args → ∀ (rest : List Tok),
    Ev (fun m => parseArgs m (printArgs args ++ rest)) (embedArgs args, rest)
  | [], hne, _, _ => absurd rfl hne
  | [e], _, hw, rest =>
    Evp.step (rt_expr e hw.1 (.sym .rparen :: rest) (by simp)) fun m h1 => by
      simp only [printArgs, List.append_assoc, List.cons_append, List.nil_append, parseArgs, h1, embedArgs]
  | e :: e2 :: es, _, hw, rest =>
    (Evp.and (rt_expr e hw.1 (.sym .comma :: (printArgs (e2 :: es) ++ rest)) (by simp)) (rt_args (e2 :: es) (by simp) hw.2 rest)).step
      fun m ⟨h1, h2⟩ => by
        simp only [printArgs, List.append_assoc, List.cons_append, parseArgs, h1, h2, embedArgs]

theorem rt_targets : (ts : List LTarget) → ts ≠ [] → wfTargets ts → ∀ (tail : List Tok), CFollow 0 tail →
    Ev (fun m => parseTargets m (printTargets ts ++ tail)) (embedTargets ts, tail)
  | [], hne, _, _, _ => absurd rfl hne
  | [.mk e a], _, hw, tail, hc =>
    Evp.step (rt_expr e hw.1 (aliasToks a ++ tail) (follow_alias a tail hc.follow)) fun m h1 => by
      simp only [printTargets, printTarget, List.append_assoc, parseTargets, h1,
        parseAlias_print a hw.2.1 tail (stripWord_cf "as" 0 tail hc (by simp)), stripComma_miss tail hc.noComma, embedTargets]
  | .mk e a :: t2 :: ts, _, hw, tail, hc =>
    (Evp.and (rt_expr e hw.1 (aliasToks a ++ (.sym .comma :: (printTargets (t2 :: ts) ++ tail))) (follow_alias a _ (by simp)))
        (rt_targets (t2 :: ts) (by simp) hw.2.2 tail hc)).step fun m ⟨h1, h2⟩ => by
      simp only [printTargets, printTarget, List.append_assoc, List.cons_append, parseTargets, h1,
        parseAlias_print a hw.2.1 (.sym .comma :: (printTargets (t2 :: ts) ++ tail)) (by simp [stripWord, isW]), stripComma, h2, embedTargets]

theorem rt_key : (k : LKey) → wfKey k → ∀ (tail : List Tok), Follow 5 tail →
    Ev (fun m => parseKey m (printKey k ++ tail)) (embedKey k, tail)
  | .idx n, _, tail, _ => Ev.of_succ fun m => by simp [printKey, parseKey, keyAct, embedKey]
  | .expr e, hw, tail, hf =>
    Evp.step (rt_expr e hw.1 tail hf) fun m h1 => by
      simp only [printKey, parseKey, keyAct_expr tail (printExpr_ne_nil e hw.1) hw.2, h1, embedKey]

theorem rt_keys : (ks : List LKey) → ks ≠ [] → wfKeys ks → ∀ (tail : List Tok), CFollow 3 tail →
    Ev (fun m => parseKeys m (printKeys ks ++ tail)) (embedKeys ks, tail)
  | [], hne, _, _, _ => absurd rfl hne
  | [k], _, hw, tail, hc =>
    Evp.step (rt_key k hw.1 tail hc.follow) fun m h1 => by
      simp only [printKeys, parseKeys, h1, stripComma_miss tail hc.noComma, embedKeys]
  | k :: k2 :: ks, _, hw, tail, hc =>
    (Evp.and (rt_key k hw.1 (.sym .comma :: (printKeys (k2 :: ks) ++ tail)) (by simp)) (rt_keys (k2 :: ks) (by simp) hw.2 tail hc)).step
      fun m ⟨h1, h2⟩ => by
        simp only [printKeys, List.append_assoc, List.cons_append, parseKeys, h1, stripComma, h2, embedKeys]

theorem rt_orders : (os : List LOrder) → os ≠ [] → wfOrders os → ∀ (tail : List Tok), CFollow 5 tail →
    Ev (fun m => parseOrders m (printOrders os ++ tail)) (embedOrders os, tail)
  | [], hne, _, _, _ => absurd rfl hne
  | [.mk k desc asc], _, hw, tail, hc =>
    Evp.step (rt_key k hw.1 (orderingToks desc asc ++ tail) (follow_ordering desc asc tail hc.follow)) fun m h1 => by
      simp only [printOrders, printOrder, List.append_assoc, parseOrders, h1,
        parseOrdering_print desc asc tail (stripWord_cf "desc" 5 tail hc (by simp)) (stripWord_cf "asc" 5 tail hc (by simp)),
        stripComma_miss tail hc.noComma, embedOrders]
  | .mk k desc asc :: o2 :: os, _, hw, tail, hc =>
    (Evp.and (rt_key k hw.1 (orderingToks desc asc ++ (.sym .comma :: (printOrders (o2 :: os) ++ tail))) (follow_ordering desc asc _ (by simp)))
        (rt_orders (o2 :: os) (by simp) hw.2 tail hc)).step fun m ⟨h1, h2⟩ => by
      simp only [printOrders, printOrder, List.append_assoc, List.cons_append, parseOrders, h1,
        parseOrdering_print desc asc (.sym .comma :: (printOrders (o2 :: os) ++ tail)) (by simp [stripWord, isW]) (by simp [stripWord, isW]),
        stripComma, h2, embedOrders]

theorem rt_from : (f : LFrom) → wfFrom f → ∀ (tail : List Tok), CFollow 1 tail →
    Ev (fun m => parseFromClause m (printFrom f ++ tail)) (embedFrom f, tail)
  | .none, _, tail, hc => stage_from_none tail hc
  | .table n, _, tail, _ => stage_from_table n tail
  | .sub s, hw, tail, _ => by
    obtain ⟨r, hr⟩ := printSelect_head s
    have h1 := rt_select s hw (.sym .rparen :: tail) (by simp)
    simp only [hr, List.cons_append] at h1
    simpa only [printFrom, hr, embedFrom, List.cons_append, List.append_assoc, List.nil_append] using stage_from_sub h1
  | .clauses o c cl, hw, tail, hc =>
    stage_from_body (fromAct_clauses o c cl tail hw.1) (parseFromBody_clauses hw hc)
  | .expr e o c cl, hw, tail, hc => by
    have hs := fromStartOK_append (printClauses o c cl ++ tail) (printExpr_ne_nil e hw.1) hw.2.1
    have := stage_from_body (fromAct_body hs (expr_head e hw.1 _))
      (parseFromBody_expr hw hc (rt_expr e hw.1))
    simpa only [printFrom, embedFrom, List.cons_append, List.append_assoc] using this

theorem rt_select : (s : LSelect) → wfSelect s → ∀ (rest : List Tok), CFollow 7 rest →
    Ev (fun m => parseSelect m (printSelect s ++ rest)) (embedSelect s, rest)
  | .mk d ts f w g hv o p l, hw, rest, hs => by
    obtain ⟨hwT, hwF, hwW, hwG, hwH, hwO, hwP⟩ := (wfSelect_def d ts f w g hv o p l).mp hw
    refine select_of_clauses d ts f w g hv o p l rest hs hwT hwP ?_ (rt_from f hwF) ?_ ?_ ?_
    · intro T c
      cases ts with
      | none => exact stage_targets_star T
      | some tl => exact stage_targets_list (targets_head tl hwT.1 hwT.2 T) (rt_targets tl hwT.1 hwT.2 T c)
    · intro T c
      cases w with
      | none => exact stage_where_none T c
      | some e => exact stage_where_some (rt_expr e hwW T c.follow)
    · intro T c
      cases g with
      | nil =>
        cases hv with
        | none => exact stage_group_nil T (c.mono (by omega))
        | some e => exact absurd rfl hwH.2
      | cons k ks =>
        cases hv with
        | none => exact stage_group_keys c (rt_keys (k :: ks) (by simp) hwG T (c.mono (by omega)))
        | some e =>
          simp only [groupToks, optExprToks, List.cons_append]
          exact stage_group_having (rt_keys (k :: ks) (by simp) hwG _ (by simp)) (rt_expr e hwH.1 T c.follow)
    · intro T c
      cases o with
      | nil => exact stage_order_nil T c
      | cons x xs => exact stage_order_some (rt_orders (x :: xs) (by simp) hwO T c)

end

theorem rt_fromOpt (f : LFrom) (hw : wfFrom f) (hp : f.plain = true) (tail : List Tok) (hc : CFollow 1 tail) :
    Ev (fun m => parseFromOpt m (printFrom f ++ tail)) (embedFrom f, tail) := by
  cases f with
  | none => exact Ev.of_forall (parseFromOpt_none tail (stripWord_cf "from" 1 tail hc (by simp)))
  | table n => cases hp
  | sub s => cases hp
  | clauses o c cl =>
    exact Evp.mono (parseFromBody_clauses hw hc) fun m h => by
      simp [printFrom, parseFromOpt, stripWord_hit, h, embedFrom]
  | expr e o c cl =>
    exact Evp.mono (parseFromBody_expr hw hc (rt_expr e hw.1)) fun m h => by
      simp [printFrom, parseFromOpt, stripWord_hit, List.append_assoc, h, embedFrom]

theorem rt_stmt (l : LStmt) (h : wfStmt l) : Ev (fun m => parseStmt m (printStmt l)) (embedStmt l) := by
  have hat : ∀ sf f T, optIdentOK sf = true → CFollow 1 T → parseAt (atToks sf ++ (printFrom f ++ T)) = some (sf, printFrom f ++ T) :=
    fun sf f T hsf hc => parseAt_print sf hsf _ (stripWord_cf "at" 0 _ (cfollow_from f T hc) (by simp))
  cases l with
  | select s =>
    obtain ⟨r, hr⟩ := printSelect_head s
    exact Evp.mono (rt_select s h [] trivial) fun m e => by
      rw [List.append_nil, hr] at e
      simp only [printStmt, hr, parseStmt, isW_word, beq_self_eq_true, ↓reduceIte, e, embedStmt]
  | balances sf f w =>
    obtain ⟨hsf, hf, hp, hw⟩ := h
    cases w with
    | none =>
      exact Evp.mono (rt_fromOpt f hf hp [] trivial) fun m e => by
        have hat := hat sf f [] hsf trivial
        rw [List.append_nil] at hat e
        simp [printStmt, optExprToks, parseStmt, isW, hat, e, stripWord, embedStmt]
    | some x =>
      have hc : CFollow 1 (.word "where" :: printExpr x) := by simp
      exact Evp.mono (Evp.and (rt_fromOpt f hf hp _ hc) (rt_expr x hw [] trivial)) fun m ⟨e1, e2⟩ => by
        rw [List.append_nil] at e2
        simp [printStmt, optExprToks, parseStmt, isW, hat sf f _ hsf hc, e1, stripWord_hit, e2, embedStmt]
  | journal a sf f =>
    obtain ⟨hsf, hf, hp⟩ := h
    refine Evp.mono (rt_fromOpt f hf hp [] trivial) fun m e => ?_
    have hat := hat sf f [] hsf trivial
    rw [List.append_nil] at hat e
    cases a with
    | some s => simp [printStmt, acctToks, parseStmt, isW, hat, e, embedStmt]
    | none =>
      -- the token after JOURNAL is not a string
      have hnostr : ∀ s r, (atToks sf ++ printFrom f) ≠ .str s :: r := by
        intro s r
        cases sf <;> cases f <;> simp [atToks, printFrom]
      generalize hts : (atToks sf ++ printFrom f) = ts at *
      cases ts with
      | nil => simp [printStmt, acctToks, parseStmt, isW, hts, hat, e, embedStmt]
      | cons t r =>
        cases t with
        | str s => exact absurd rfl (hnostr s r)
        | _ => simp [printStmt, acctToks, parseStmt, isW, hts, hat, e, embedStmt]
  | print f =>
    obtain ⟨hf, hp⟩ := h
    exact Evp.mono (rt_fromOpt f hf hp [] trivial) fun m e => by
      rw [List.append_nil] at e
      simp [printStmt, parseStmt, isW, e, embedStmt]

end Bql.Syn
