/-
  Base of the parser round trip.  Every parser function has the shape `p (m + 1) ts = … sub-parsers at fuel m …`,
  so a result that the sub-parsers reach for all large fuel is reached by `p` for all large fuel: `Evp.and`
  collects the sub-results, `Evp.step` spends the unit of fuel, and thresholds are handled here and nowhere else.
  Then the follow sets (which token stops which loop) and the loops.
-/
import BqlVerif.Model.Parser
set_option autoImplicit false
namespace Bql.Syn

def Ev {β : Type} (p : Nat → Option β) (r : β) : Prop := ∃ n, ∀ m, n ≤ m → p m = some r

theorem Ev.of_forall {β : Type} {q : Nat → Option β} {r : β} (h : ∀ m, q m = some r) : Ev q r := ⟨0, fun m _ => h m⟩

theorem Ev.const {β : Type} (r : β) : Ev (fun _ => some r) r := Ev.of_forall fun _ => rfl

/-- `Ev p r` unfolds to `Evp (fun m => p m = some r)`, so the lemmas below take `Ev` hypotheses as they are -/
def Evp (P : Nat → Prop) : Prop := ∃ n, ∀ m, n ≤ m → P m

theorem Evp.and {P Q : Nat → Prop} (hp : Evp P) (hq : Evp Q) : Evp (fun m => P m ∧ Q m) :=
  let ⟨n1, h1⟩ := hp
  let ⟨n2, h2⟩ := hq
  ⟨max n1 n2, fun m hm => ⟨h1 m (by omega), h2 m (by omega)⟩⟩

theorem Evp.mono {P Q : Nat → Prop} (h : Evp P) (hq : ∀ m, P m → Q m) : Evp Q :=
  let ⟨n, hn⟩ := h
  ⟨n, fun m hm => hq m (hn m hm)⟩

theorem Evp.step {β : Type} {P : Nat → Prop} {q : Nat → Option β} {r : β} (h : Evp P)
    (hq : ∀ m, P m → q (m + 1) = some r) : Ev q r :=
  let ⟨n, hn⟩ := h
  ⟨n + 1, fun m hm => by
    obtain ⟨k, rfl⟩ : ∃ k, m = k + 1 := ⟨m - 1, by omega⟩
    exact hq k (hn k (by omega))⟩

theorem Ev.of_succ {β : Type} {q : Nat → Option β} {r : β} (h : ∀ m, q (m + 1) = some r) : Ev q r :=
  Evp.step (P := fun _ => True) ⟨0, fun _ _ => trivial⟩ (fun m _ => h m)

/-- two fuels: a loop carries the fuel of its caller in the sub-parser and has its own -/
def Ev2 {β : Type} (p : Nat → Nat → Option β) (r : β) : Prop := ∃ n, ∀ a b, n ≤ a → n ≤ b → p a b = some r

theorem Ev2.diag {β : Type} {p : Nat → Nat → Option β} {r : β} (h : Ev2 p r) : Ev (fun m => p m m) r :=
  let ⟨n, hn⟩ := h
  ⟨n, fun m hm => hn m m hm hm⟩

theorem Ev2.of_succ {β : Type} {q : Nat → Nat → Option β} {r : β} (h : ∀ a b, q a (b + 1) = some r) : Ev2 q r :=
  ⟨1, fun a b _ hb => by
    obtain ⟨k, rfl⟩ : ∃ k, b = k + 1 := ⟨b - 1, by omega⟩
    exact h a k⟩

/-- one turn of a loop: the sub-parser reads an operand, the loop goes on with one unit of fuel less -/
theorem Ev2.step {β γ : Type} {p : Nat → Option β} {x : β} {l q : Nat → Nat → Option γ} {r : γ} (h1 : Ev p x) (h2 : Ev2 l r)
    (hq : ∀ a b, p a = some x → l a b = some r → q a (b + 1) = some r) : Ev2 q r :=
  let ⟨n1, h1⟩ := h1
  let ⟨n2, h2⟩ := h2
  ⟨max n1 n2 + 1, fun a b ha hb => by
    obtain ⟨k, rfl⟩ : ∃ k, b = k + 1 := ⟨b - 1, by omega⟩
    exact hq a k (h1 a (by omega)) (h2 a k (by omega) (by omega))⟩

/-! Token classes (`tokLevel`; `wordLevel` for the words) by the lowest grammar level that continues with them:
    0 postfix / call, 1 `* / %`, 2 `+ -`, 3 comparison, 4 AND, 5 OR, 6 everything else. -/

def wordLevel (w : String) : Nat :=
  if w = "in" ∨ w = "not" ∨ w = "is" ∨ w = "between" then 3 else if w = "and" then 4 else if w = "or" then 5 else 6

def tokLevel : Tok → Nat
  | .sym .dot | .sym .lbrack | .sym .lparen => 0
  | .sym .star | .sym .slash | .sym .percent => 1
  | .sym .plus | .sym .minus => 2
  | .sym .lt | .sym .le | .sym .gt | .sym .ge | .sym .eq | .sym .ne | .sym .tilde | .sym .ntilde => 3
  | .word w => wordLevel w
  | _ => 6

def Follow (k : Nat) : List Tok → Prop
  | [] => True
  | t :: _ => k < tokLevel t

theorem follow_cons (k : Nat) (t : Tok) (r : List Tok) : Follow k (t :: r) ↔ k < tokLevel t := Iff.rfl

theorem Follow.head {k : Nat} {rest : List Tok} (h : Follow k rest) : ∀ t ∈ rest.head?, k < tokLevel t := by
  cases rest with
  | nil => simp
  | cons t r => simpa [Follow] using h

theorem Follow.mono {k j : Nat} {rest : List Tok} (h : Follow k rest) (hj : j ≤ k) : Follow j rest := by
  cases rest with
  | nil => trivial
  | cons t r => exact Nat.lt_of_le_of_lt hj h

/-- tokens that may be absent, in front of a tail: the next token is theirs or the tail's -/
theorem Follow.append {k : Nat} {x tail : List Tok} (hx : Follow k x) (h : Follow k tail) : Follow k (x ++ tail) := by
  cases x with
  | nil => exact h
  | cons t r => exact hx

theorem mulOpOf_none (t : Tok) (h : 1 < tokLevel t) : mulOpOf t = none := by
  cases t with
  | sym s => cases s <;> revert h <;> decide
  | _ => rfl

theorem addOpOf_none (t : Tok) (h : 2 < tokLevel t) : addOpOf t = none := by
  cases t with
  | sym s => cases s <;> revert h <;> decide
  | _ => rfl

theorem cmpOpOf_none (t : Tok) (h : 3 < tokLevel t) : cmpOpOf t = none := by
  cases t with
  | sym s => cases s <;> revert h <;> decide
  | word w =>
    have hw : w ≠ "in" := by rintro rfl; exact absurd h (by decide)
    simp [cmpOpOf, hw]
  | _ => rfl

theorem isW_word (w v : String) : isW w (.word v) = (v == w) := rfl

theorem isW_of {P : Tok → Prop} {t : Tok} (ht : P t) {w : String} (hw : ¬ P (.word w)) : isW w t = false := by
  cases t with
  | word v => exact beq_false_of_ne fun e => hw (e ▸ ht)
  | _ => rfl

theorem isW_of_level (w : String) (t : Tok) (k : Nat) (h : k < tokLevel t) (hw : wordLevel w ≤ k) : isW w t = false :=
  isW_of (P := fun t => k < tokLevel t) h (Nat.not_lt.2 hw)

theorem stripWord_hit (w : String) (ts : List Tok) : stripWord w (.word w :: ts) = some ts := by
  simp [stripWord, isW]

/-- every reason why an optional word is absent has this form: the next token, if any, has a property the word lacks
    (a level above the word's, being the start of an operand, ...) -/
theorem stripWord_miss {P : Tok → Prop} (w : String) (ts : List Tok) (h : ∀ t ∈ ts.head?, P t) (hw : ¬ P (.word w)) :
    stripWord w ts = none := by
  cases ts with
  | nil => rfl
  | cons t r => simp [stripWord, isW_of (h t rfl) hw]

theorem ev2_binLoop_done (opOf : Tok → Option BinOp) (sub : Nat → List Tok → P Expr) (acc : Expr) (rest : List Tok)
    (h : ∀ t ∈ rest.head?, opOf t = none) : Ev2 (fun a b => binLoop opOf (sub a) b acc rest) (acc, rest) :=
  Ev2.of_succ fun a b => by
    cases rest with
    | nil => rfl
    | cons t r => simp [binLoop, h t rfl]

theorem ev2_binLoop_step {opOf : Tok → Option BinOp} {sub : Nat → List Tok → P Expr} {acc : Expr} {t : Tok} {ts : List Tok}
    {op : BinOp} {r : Expr} {rest : List Tok} {res : Expr × List Tok} (ho : opOf t = some op)
    (h1 : Ev (fun a => sub a ts) (r, rest)) (h2 : Ev2 (fun a b => binLoop opOf (sub a) b (.binop op acc r) rest) res) :
    Ev2 (fun a b => binLoop opOf (sub a) b acc (t :: ts)) res :=
  Ev2.step h1 h2 fun a b e1 e2 => by simp only [binLoop, ho, e1]; exact e2

theorem ev2_sepLoop_done (kw : String) (sub : Nat → List Tok → P Expr) (acc : List Expr) (rest : List Tok)
    (h : ∀ t ∈ rest.head?, isW kw t = false) : Ev2 (fun a b => sepLoop kw (sub a) b acc rest) (acc, rest) :=
  Ev2.of_succ fun a b => by
    cases rest with
    | nil => rfl
    | cons t r =>
      cases t with
      | word w =>
        have := h (.word w) rfl
        simp only [isW_word, beq_eq_false_iff_ne, ne_eq] at this
        simp [sepLoop, this]
      | _ => rfl

theorem ev2_sepLoop_step {kw : String} {sub : Nat → List Tok → P Expr} {acc : List Expr} {ts : List Tok}
    {e : Expr} {rest : List Tok} {res : List Expr × List Tok}
    (h1 : Ev (fun a => sub a ts) (e, rest)) (h2 : Ev2 (fun a b => sepLoop kw (sub a) b (acc ++ [e]) rest) res) :
    Ev2 (fun a b => sepLoop kw (sub a) b acc (.word kw :: ts)) res :=
  Ev2.step h1 h2 fun a b e1 e2 => by simp only [sepLoop, ↓reduceIte, e1]; exact e2

theorem ev_postfix_done (acc : Expr) (rest : List Tok) (h : Follow 0 rest) : Ev (fun m => postfixLoop m acc rest) (acc, rest) :=
  Ev.of_succ fun m => by
    cases rest with
    | nil => rfl
    | cons t r =>
      cases t with
      | sym s => cases s <;> first | rfl | exact absurd h (Nat.lt_irrefl 0)
      | _ => rfl

end Bql.Syn
