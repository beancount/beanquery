/-
  PIVOT BY: an output row is a leading cell followed by one block of cells per key; `spliceAt` at a
  block boundary overwrites that block and no other, so the placement loop leaves in each block
  the values of the last row that carried its key.
-/
import BqlVerif.Model.Pivot
import BqlVerif.Proofs.AggLemmas
set_option autoImplicit false
namespace Bql.C15

theorem dedupValues_eq (vs : List Value) : dedupValues vs = Agg.dedup pyEq vs := by
  induction vs with
  | nil => rfl
  | cons v vs ih => rw [dedupValues, ih]; rfl

theorem spliceAt_length (out vals : Row) (i : Nat) (h : i + vals.length ≤ out.length) :
    (spliceAt out i vals).length = out.length := by
  simp [spliceAt]; omega

theorem take_spliceAt (out vals : Row) {i m : Nat} (hm : m ≤ i) (h : i ≤ out.length) :
    (spliceAt out i vals).take m = out.take m := by
  rw [spliceAt, List.append_assoc, List.take_append_of_le_length (by rw [List.length_take]; omega),
    List.take_take, Nat.min_eq_left hm]

theorem drop_spliceAt (out vals : Row) {i m : Nat} (hm : i + vals.length ≤ m) (h : i ≤ out.length) :
    (spliceAt out i vals).drop m = out.drop m := by
  obtain ⟨d, rfl⟩ := Nat.exists_eq_add_of_le hm
  have hl : (out.take i ++ vals).length = i + vals.length := by rw [List.length_append, List.length_take]; omega
  rw [spliceAt, ← hl, List.drop_length_add_append, List.drop_drop, hl]

theorem spliceAt_head (out vals : Row) (i : Nat) (hi : 1 ≤ i) (h : i ≤ out.length) :
    (spliceAt out i vals).head? = out.head? := by
  have := congrArg List.head? (take_spliceAt out vals hi h)
  simpa [List.head?_take] using this

/-- the block of remaining-column values for key number `k` in an output row -/
def block (n : Nat) (out : Row) (k : Nat) : Row := (out.drop (k * n + 1)).take n

/-- block `k` of a row of `m` blocks of `n` cells after the leading cell lies inside the row -/
theorem block_bound {k m n : Nat} (h : k < m) : k * n + 1 + n ≤ 1 + m * n := by
  have : (k + 1) * n ≤ m * n := Nat.mul_le_mul_right n h
  rw [Nat.add_mul] at this; omega

theorem block_splice_same (n : Nat) (out vals : Row) (k : Nat) (hv : vals.length = n)
    (h : k * n + 1 + n ≤ out.length) :
    block n (spliceAt out (k * n + 1) vals) k = vals := by
  unfold block spliceAt
  rw [List.append_assoc, List.drop_left' (by simp; omega), List.take_left' hv]

/-- another block lies wholly in front of the spliced one or wholly behind it -/
theorem block_splice_other (n : Nat) (out vals : Row) (k k' : Nat) (hv : vals.length = n) (hne : k' ≠ k)
    (h : k * n + 1 + n ≤ out.length) :
    block n (spliceAt out (k * n + 1) vals) k' = block n out k' := by
  unfold block
  rcases Nat.lt_or_gt_of_ne hne with hlt | hgt
  · have := block_bound (n := n) hlt
    rw [List.take_drop, List.take_drop, take_spliceAt _ _ (by omega) (by omega)]
  · have := block_bound (n := n) hgt
    rw [drop_spliceAt _ _ (by omega) (by omega)]

theorem findIndex?_lt (keys : List Value) (v : Value) (k : Nat) (h : findIndex? keys v = some k) : k < keys.length := by
  unfold findIndex? at h
  simp only at h
  split at h
  · injection h with h; omega
  · cases h

theorem placeRows_block (keys : List Value) (othercols : List Nat) (col2 : Nat) (out res : Row) (group : List Row)
    (hw : out.length = 1 + keys.length * othercols.length)
    (h : placeRows keys othercols col2 out group = .ok res) :
    res.length = out.length ∧ res.head? = out.head? ∧ ∀ k, block othercols.length res k =
      match (group.filter (fun row => findIndex? keys (row.getD col2 .null) == some k)).getLast? with
      | some row => otherVals othercols row
      | none => block othercols.length out k := by
  induction group generalizing out with
  | nil => cases h; exact ⟨rfl, rfl, fun _ => rfl⟩
  | cons row rest ih =>
    unfold placeRows at h
    split at h
    · cases h
    · rename_i k0 hk
      have hv : (otherVals othercols row).length = othercols.length := by simp [otherVals]
      have hbound := block_bound (n := othercols.length) (findIndex?_lt keys _ k0 hk)
      rw [← hw] at hbound
      have hlen := spliceAt_length out _ (k0 * othercols.length + 1) (by rw [hv]; exact hbound)
      obtain ⟨h1, h2, h3⟩ := ih _ (by rw [hlen, hw]) h
      refine ⟨h1.trans hlen, h2.trans (spliceAt_head _ _ _ (by omega) (by omega)), fun k => ?_⟩
      rw [h3, List.filter_cons, hk]
      by_cases hkk : k0 = k
      · subst hkk
        rw [if_pos (beq_self_eq_true _), List.getLast?_cons]
        cases (rest.filter (fun row => findIndex? keys (row.getD col2 .null) == some k0)).getLast? with
        | some r => rfl
        | none => exact block_splice_same _ out _ k0 hv hbound
      · rw [if_neg (by simpa using hkk)]
        cases (rest.filter (fun row => findIndex? keys (row.getD col2 .null) == some k)).getLast? with
        | some r => rfl
        | none => exact block_splice_other _ out _ k0 k hv (fun h => hkk h.symm) hbound

/-- the loop as `pivotRow` starts it: from the first-column value followed by NULLs -/
theorem pivotRow_block (keys : List Value) (othercols : List Nat) (col2 : Nat) (field1 : Value) (group : List Row)
    (res : Row) (h : pivotRow keys othercols col2 (1 + keys.length * othercols.length) field1 group = .ok res) :
    res.length = 1 + keys.length * othercols.length ∧ res.head? = some field1 ∧
    ∀ k, k < keys.length → block othercols.length res k =
      match (group.filter (fun row => findIndex? keys (row.getD col2 .null) == some k)).getLast? with
      | some row => otherVals othercols row
      | none => List.replicate othercols.length .null := by
  have hw : (field1 :: List.replicate (1 + keys.length * othercols.length - 1) Value.null).length
      = 1 + keys.length * othercols.length := by simp; omega
  obtain ⟨h1, h2, h3⟩ := placeRows_block keys othercols col2 _ res group hw h
  refine ⟨h1.trans hw, h2, fun k hk => ?_⟩
  rw [h3]
  split
  · rfl
  · have := block_bound (n := othercols.length) hk
    simp only [block, List.drop_succ_cons, List.drop_replicate, List.take_replicate]
    congr 1; omega

end Bql.C15
