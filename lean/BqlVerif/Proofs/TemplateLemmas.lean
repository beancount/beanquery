/-
  The generated template trees are compared with the specification trees by the Boolean `Doc.beq`, which is sound
  for equality (`Doc.eq_of_beq`); `templateIs` looks a tree up and compares, so that a template theorem is one
  kernel evaluation (`template_of_is`, `templates_and`).
-/
import BqlVerif.Model.Templates
import BqlVerif.Generated.Templates
set_option autoImplicit false
namespace Bql.C14

def template (key : String) : Option Doc := (Gen.templates.find? (fun p => p.1 == key)).map (·.2)

mutual
theorem Doc.eq_of_beq : ∀ (a b : Doc), Doc.beq a b = true → a = b
  | .atom a, .atom b, h => by simp only [Doc.beq, beq_iff_eq] at h; rw [h]
  | .node n fs, .node m gs, h => by
    simp only [Doc.beq, Bool.and_eq_true, beq_iff_eq] at h
    rw [h.1, Doc.eq_of_beqFields fs gs h.2]
  | .list xs, .list ys, h => by
    simp only [Doc.beq] at h
    rw [Doc.eq_of_beqList xs ys h]
  | .atom _, .node _ _, h | .atom _, .list _, h | .node _ _, .atom _, h | .node _ _, .list _, h
  | .list _, .atom _, h | .list _, .node _ _, h => by simp [Doc.beq] at h
theorem Doc.eq_of_beqFields : ∀ (fs gs : List (String × Doc)), Doc.beqFields fs gs = true → fs = gs
  | [], [], _ => rfl
  | (n, d) :: fs, (m, e) :: gs, h => by
    simp only [Doc.beqFields, Bool.and_eq_true, beq_iff_eq] at h
    rw [h.1.1, Doc.eq_of_beq d e h.1.2, Doc.eq_of_beqFields fs gs h.2]
  | [], _ :: _, h | _ :: _, [], h => by simp [Doc.beqFields] at h
theorem Doc.eq_of_beqList : ∀ (xs ys : List Doc), Doc.beqList xs ys = true → xs = ys
  | [], [], _ => rfl
  | d :: ds, e :: es, h => by
    simp only [Doc.beqList, Bool.and_eq_true] at h
    rw [Doc.eq_of_beq d e h.1, Doc.eq_of_beqList ds es h.2]
  | [], _ :: _, h | _ :: _, [], h => by simp [Doc.beqList] at h
end

/-- the decision procedure behind the template theorems: find the generated tree and compare structurally -/
def templateIs (key : String) (d : Doc) : Bool :=
  match template key with
  | some t => Doc.beq t d
  | none => false

theorem template_of_is {key : String} {d : Doc} (h : templateIs key d = true) : template key = some d := by
  unfold templateIs at h
  cases ht : template key with
  | none => rw [ht] at h; cases h
  | some t => rw [ht] at h; rw [Doc.eq_of_beq t d h]

/-- Several templates in one Boolean: evaluated as one term, the kernel compares what the trees share only once, where a
    `decide` for each tree repeats it. -/
theorem templates_and {key : String} {d : Doc} {b : Bool} {P : Prop} (hP : b = true → P)
    (h : (templateIs key d && b) = true) : template key = some d ∧ P :=
  ⟨template_of_is (Bool.and_eq_true_iff.mp h).1, hP (Bool.and_eq_true_iff.mp h).2⟩

end Bql.C14
