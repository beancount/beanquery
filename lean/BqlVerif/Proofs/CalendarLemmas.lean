/-
  The calendar model for all dates: ordinals and (y, m, d) triples convert into each other,
  and the ISO calendar is consistent with the ordinal.
-/
import BqlVerif.Model.Funcs
set_option autoImplicit false
namespace Bql

/-- `Date.valid` without the upper bound on the year -/
def Date.proper (d : Date) : Prop :=
  1 ≤ d.y ∧ 1 ≤ d.m ∧ d.m ≤ 12 ∧ 1 ≤ d.d ∧ d.d ≤ daysInMonth d.y d.m

theorem Date.valid_iff (d : Date) : d.valid = true ↔ d.proper ∧ d.y ≤ 9999 := by
  simp only [Date.valid, Date.proper, Bool.and_eq_true, decide_eq_true_eq]; omega

theorem proper_of_valid {d : Date} (h : d.valid = true) : d.proper := ((Date.valid_iff d).1 h).1

theorem daysBeforeMonth_one (y : Nat) : daysBeforeMonth y 1 = 0 := rfl

theorem daysBeforeMonth_succ (y m : Nat) (h1 : 1 ≤ m) (h2 : m ≤ 12) :
    daysBeforeMonth y (m + 1) = daysBeforeMonth y m + daysInMonth y m := by
  unfold daysBeforeMonth daysInMonth
  generalize isLeap y = leap
  -- twelve rows of two tables, for either kind of year
  revert h1; revert leap m; decide

/-- the year's length, as the table's entry past December -/
theorem daysBeforeMonth_thirteen (y : Nat) : daysBeforeMonth y 13 = 365 + if isLeap y then 1 else 0 := rfl

theorem daysBeforeMonth_mono (y : Nat) {m m' : Nat} (h1 : 1 ≤ m) (h : m ≤ m') (h2 : m' ≤ 13) :
    daysBeforeMonth y m ≤ daysBeforeMonth y m' := by
  induction h with
  | refl => exact Nat.le_refl _
  | @step k hk ih =>
    have hk : m ≤ k := hk  -- as `Nat.le m k`, the form it has here, `omega` does not read it
    rw [daysBeforeMonth_succ y k (by omega) (by omega)]
    exact Nat.le_trans (ih (by omega)) (Nat.le_add_right _ _)

theorem daysBeforeMonth_bounds (y m : Nat) :
    daysBeforeMonthTbl m ≤ daysBeforeMonth y m ∧ daysBeforeMonth y m ≤ daysBeforeMonthTbl m + 1 := by
  unfold daysBeforeMonth; split <;> omega

/-- `(r + 50) / 32` is the month of day `r` (from 0) of the year, or the month after: month `k - 1`
    has begun by day `32 * k - 50`, also in a leap year, and month `k + 1` begins after day
    `32 * k - 19`, the last with estimate `k` (for `k = 12`, after the last day of the year) -/
theorem month_estimate (y r k : Nat) (hr : r < 365) (hk : k = (r + 50) / 32) :
    1 ≤ k ∧ k ≤ 12 ∧ r < daysBeforeMonth y (k + 1) ∧
      (r < daysBeforeMonth y k → 2 ≤ k ∧ daysBeforeMonth y (k - 1) ≤ r) := by
  have lo : ∀ k, k ≤ 12 → 2 ≤ k → daysBeforeMonthTbl (k - 1) + 51 ≤ 32 * k := by decide
  have hi : ∀ k, k ≤ 12 → min (32 * k + 32) 415 ≤ daysBeforeMonthTbl (k + 1) + 50 := by decide
  have hk12 : k ≤ 12 := hk ▸ Nat.le_of_lt_succ (Nat.div_lt_of_lt_mul (by omega))
  have h1 : 32 * k ≤ r + 50 := hk ▸ Nat.mul_div_le _ _
  have h2 : r + 50 < 32 * k + 32 := hk ▸ Nat.lt_mul_div_succ _ (by decide)
  clear hk
  have hk1 : 1 ≤ k := by omega
  refine ⟨hk1, hk12, Nat.lt_of_lt_of_le ?_ (daysBeforeMonth_bounds y (k + 1)).1, fun hlt => ?_⟩
  · have := hi k hk12; omega
  · -- nothing precedes January
    have hk2 : 2 ≤ k := Nat.lt_of_le_of_ne hk1 fun h => by subst h; exact Nat.not_lt_zero r hlt
    have := lo k hk12 hk2
    exact ⟨hk2, Nat.le_trans (daysBeforeMonth_bounds y (k - 1)).2 (by omega)⟩

theorem isLeap_iff (y : Nat) : isLeap y = true ↔ 4 ∣ y ∧ (¬ 100 ∣ y ∨ 400 ∣ y) := by
  simp [isLeap, Nat.dvd_iff_mod_eq_zero]

/-- the three tests of the leap rule are nested, so that a year counts once or not at all -/
theorem leap_count (y : Nat) :
    ((if 4 ∣ y then 1 else 0) + if 400 ∣ y then 1 else 0) = (if 100 ∣ y then 1 else 0) + if isLeap y then 1 else 0 := by
  have h1 : 400 ∣ y → 100 ∣ y := Nat.dvd_trans (by decide)
  have h2 : 100 ∣ y → 4 ∣ y := Nat.dvd_trans (by decide)
  by_cases d4 : 4 ∣ y <;> by_cases d100 : 100 ∣ y <;> by_cases d400 : 400 ∣ y <;> simp_all [isLeap_iff]

theorem daysBeforeYear_succ (y : Nat) (h : 1 ≤ y) :
    daysBeforeYear (y + 1) = daysBeforeYear y + 365 + if isLeap y then 1 else 0 := by
  obtain ⟨p, rfl⟩ : ∃ p, y = p + 1 := ⟨y - 1, by omega⟩
  have h1 : p / 100 ≤ p / 4 := Nat.div_le_div_left (by decide) (by decide)
  have h2 : (p + 1) / 100 ≤ (p + 1) / 4 := Nat.div_le_div_left (by decide) (by decide)
  have := leap_count (p + 1)
  -- each quotient grows by one where its divisor divides the new year
  simp only [daysBeforeYear, Nat.add_sub_cancel, Nat.succ_div] at h2 ⊢
  generalize p / 4 = q4, p / 100 = q100, p / 400 = q400 at *
  omega

theorem daysBeforeYear_succ_bounds (y : Nat) (h : 1 ≤ y) :
    daysBeforeYear y + 365 ≤ daysBeforeYear (y + 1) ∧ daysBeforeYear (y + 1) ≤ daysBeforeYear y + 366 := by
  rw [daysBeforeYear_succ y h]; split <;> omega

theorem daysBeforeYear_mono {y y' : Nat} (h : y ≤ y') : daysBeforeYear y ≤ daysBeforeYear y' := by
  induction h with
  | refl => exact Nat.le_refl _
  | @step k _ ih =>
    refine Nat.le_trans ih ?_
    cases k with
    | zero => decide
    | succ k => rw [daysBeforeYear_succ (k + 1) (by omega), Nat.add_assoc]; exact Nat.le_add_right _ _

theorem toOrd_bounds {d : Date} (h : d.proper) :
    daysBeforeYear d.y < d.toOrd ∧ d.toOrd ≤ daysBeforeYear (d.y + 1) := by
  obtain ⟨hy, hm1, hm2, hd1, hd2⟩ := h
  have := daysBeforeMonth_succ d.y d.m hm1 hm2
  have := daysBeforeMonth_mono d.y (Nat.le_add_left 1 d.m) (Nat.succ_le_succ hm2)
  rw [daysBeforeMonth_thirteen] at this
  rw [daysBeforeYear_succ d.y hy]
  unfold Date.toOrd
  omega

theorem toOrd_pos {d : Date} (h : d.proper) : 1 ≤ d.toOrd :=
  Nat.succ_le_of_lt (Nat.zero_lt_of_lt (toOrd_bounds h).1)

theorem year_le_of_toOrd_le {a b : Date} (ha : a.proper) (hb : b.proper) (h : a.toOrd ≤ b.toOrd) :
    a.y ≤ b.y := by
  apply Nat.le_of_not_lt; intro hlt
  have := toOrd_bounds ha; have := toOrd_bounds hb
  have := daysBeforeYear_mono (show b.y + 1 ≤ a.y from hlt)
  omega

theorem month_le_of_toOrd_le {a b : Date} (ha : a.proper) (hb : b.proper) (hy : a.y = b.y)
    (h : a.toOrd ≤ b.toOrd) : a.m ≤ b.m := by
  apply Nat.le_of_not_lt; intro hlt
  obtain ⟨_, _, hm2, hd1, _⟩ := ha
  obtain ⟨_, hm1, _, _, hd2⟩ := hb
  have := daysBeforeMonth_succ b.y b.m hm1 (by omega)
  have := daysBeforeMonth_mono b.y (Nat.le_add_left 1 b.m) (show b.m + 1 ≤ a.m from hlt) (by omega)
  unfold Date.toOrd at h
  rw [hy] at h
  omega

theorem toOrd_injective {a b : Date} (ha : a.proper) (hb : b.proper) (h : a.toOrd = b.toOrd) : a = b := by
  have hy : a.y = b.y :=
    Nat.le_antisymm (year_le_of_toOrd_le ha hb (Nat.le_of_eq h)) (year_le_of_toOrd_le hb ha (Nat.le_of_eq h.symm))
  have hm : a.m = b.m :=
    Nat.le_antisymm (month_le_of_toOrd_le ha hb hy (Nat.le_of_eq h))
      (month_le_of_toOrd_le hb ha hy.symm (Nat.le_of_eq h.symm))
  cases a; cases b
  simp only [Date.toOrd] at *
  subst hy hm
  simp only [Date.mk.injEq, true_and]
  omega

/-- day `r` (from 0) of year `y` is in month `m` when it lies between the starts of `m` and of the next month -/
theorem toOrd_yearDay (y m r : Nat) (hy : 1 ≤ y) (hm1 : 1 ≤ m) (hm2 : m ≤ 12)
    (lo : daysBeforeMonth y m ≤ r) (hi : r < daysBeforeMonth y (m + 1)) :
    let d : Date := ⟨y, m, r - daysBeforeMonth y m + 1⟩
    d.toOrd = daysBeforeYear y + r + 1 ∧ d.proper := by
  rw [daysBeforeMonth_succ y m hm1 hm2] at hi
  refine ⟨?_, hy, hm1, hm2, Nat.le_add_left _ _, ?_⟩
  · simp only [Date.toOrd]; omega
  · dsimp only; omega

theorem toOrd_dec31 (y : Nat) (h : 2 ≤ y) :
    let d : Date := ⟨y - 1, 12, 31⟩
    d.toOrd = daysBeforeYear y ∧ d.proper := by
  obtain ⟨p, rfl⟩ : ∃ p, y = p + 1 := ⟨y - 1, by omega⟩
  have := daysBeforeMonth_succ p 12 (by decide) (by decide)
  rw [daysBeforeMonth_thirteen] at this
  refine ⟨?_, Nat.le_of_succ_le_succ h, (by decide : 1 ≤ 12), Nat.le_refl 12, (by decide : 1 ≤ 31), Nat.le_refl 31⟩
  rw [daysBeforeYear_succ p (Nat.le_of_succ_le_succ h)]
  simp only [Date.toOrd, Nat.add_sub_cancel]
  have : daysInMonth p 12 = 31 := rfl
  omega

/-- a last digit `d` in radix `k` -/
theorem mul_add_div_of_lt (x k d : Nat) (hd : d < k) : (x * k + d) / k = x := by
  rw [Nat.mul_comm, Nat.mul_add_div (Nat.zero_lt_of_lt hd), Nat.div_eq_of_lt hd, Nat.add_zero]

/-- 146097, 36524 and 1461 are the days in 400 years, in 100 years of which the last is a common
    year, and in 4 years of which the last is a leap year; hence the bounds on `b`, `c`, `e`. -/
theorem daysBeforeYear_cycles (a b c e : Nat) (hb : b ≤ 3) (hc : c ≤ 24) (he : e ≤ 3) :
    daysBeforeYear (a * 400 + 1 + b * 100 + c * 4 + e) = 146097 * a + 36524 * b + 1461 * c + 365 * e := by
  -- the years before, in the mixed radix 4, 25, 4 of the leap rules: the quotients by 4, 100, 400 are its prefixes
  have hp : a * 400 + 1 + b * 100 + c * 4 + e - 1 = ((a * 4 + b) * 25 + c) * 4 + e := by
    simp only [Nat.add_right_comm _ 1, Nat.add_sub_cancel, Nat.add_mul, Nat.mul_assoc]
  rw [daysBeforeYear, hp, ← Nat.div_div_eq_div_mul _ 100 4, ← Nat.div_div_eq_div_mul _ 4 25,
    mul_add_div_of_lt _ 4 e (Nat.lt_succ_of_le he), mul_add_div_of_lt _ 25 c (Nat.lt_succ_of_le hc),
    mul_add_div_of_lt _ 4 b (Nat.lt_succ_of_le hb)]
  omega

theorem isLeap_cycles (a b c e : Nat) (hb : b ≤ 3) (hc : c ≤ 24) (he : e ≤ 3) :
    isLeap (a * 400 + 1 + b * 100 + c * 4 + e) = (e == 3 && (c != 24 || b == 3)) := by
  -- the year is `e + 1` modulo 4, so a multiple of 4 iff `e = 3`; then of 100 iff also `c = 24`, of 400 iff also `b = 3`
  rw [Bool.eq_iff_iff, isLeap_iff]; simp; omega

theorem div_mod_spec (x k : Nat) (hk : 0 < k) : x = k * (x / k) + x % k ∧ x % k < k :=
  ⟨(Nat.div_add_mod x k).symm, Nat.mod_lt x hk⟩

theorem fromOrd_spec (n : Nat) (hn : 1 ≤ n) : (Date.fromOrd n).toOrd = n ∧ (Date.fromOrd n).proper := by
  unfold Date.fromOrd
  extract_lets n0 a R1 b R2 c R3 e r Y leap k pre m' dim pre'
  -- (as a term: `omega` would look through `a`, `b`, `c`, `e` into the divisions)
  have hY : 1 ≤ Y := Nat.le_add_right_of_le (Nat.le_add_right_of_le (Nat.le_add_right_of_le (Nat.le_add_left 1 _)))
  have hn0 : n = n0 + 1 := (Nat.sub_add_cancel hn).symm
  have h1 : n0 = 146097 * a + R1 ∧ R1 < 146097 := div_mod_spec n0 146097 (by decide)
  have h2 : R1 = 36524 * b + R2 ∧ R2 < 36524 := div_mod_spec R1 36524 (by decide)
  have h3 : R2 = 1461 * c + R3 ∧ R3 < 1461 := div_mod_spec R2 1461 (by decide)
  have h4 : R3 = 365 * e + r ∧ r < 365 := div_mod_spec R3 365 (by decide)
  clear_value n0 a R1 b R2 c R3 e r
  -- `n - 1` in the mixed radix of the cycles, each remainder below the length of its cycle
  obtain ⟨rfl, h1⟩ := h1; obtain ⟨rfl, h2⟩ := h2; obtain ⟨rfl, h3⟩ := h3; obtain ⟨rfl, hr⟩ := h4
  subst hn0
  split
  · next h =>
    -- the last day of a 4-year or of a 400-year cycle: the cycle count has run one year ahead
    simp only [Bool.or_eq_true, beq_iff_eq] at h
    suffices hD : 2 ≤ Y ∧ daysBeforeYear Y = 146097 * a + (36524 * b + (1461 * c + (365 * e + r))) + 1 by
      rw [← hD.2]; exact toOrd_dec31 Y hD.1
    rcases h with he | hb
    · obtain ⟨rfl, hc, hb⟩ : r = 0 ∧ c ≤ 23 ∧ b ≤ 3 := by omega
      rw [show Y = a * 400 + 1 + b * 100 + (c + 1) * 4 + 0 by omega,
        daysBeforeYear_cycles _ _ _ _ hb (Nat.succ_le_of_lt (Nat.lt_succ_of_le hc)) (Nat.zero_le 3)]
      omega
    · obtain ⟨rfl, rfl, rfl⟩ : c = 0 ∧ e = 0 ∧ r = 0 := by omega
      rw [show Y = (a + 1) * 400 + 1 + 0 * 100 + 0 * 4 + 0 by omega,
        daysBeforeYear_cycles _ _ _ _ (Nat.zero_le 3) (Nat.zero_le 24) (Nat.zero_le 3)]
      omega
  · next h =>
    simp only [Bool.or_eq_true, beq_iff_eq, not_or] at h
    obtain ⟨hb3, hc24, he3⟩ : b ≤ 3 ∧ c ≤ 24 ∧ e ≤ 3 := by omega
    have hleap : leap = isLeap Y := (isLeap_cycles a b c e hb3 hc24 he3).symm
    have hD : 146097 * a + (36524 * b + (1461 * c + (365 * e + r))) = daysBeforeYear Y + r := by
      rw [daysBeforeYear_cycles a b c e hb3 hc24 he3]; omega
    have hpre : pre = daysBeforeMonth Y k := by rw [daysBeforeMonth, ← hleap]
    obtain ⟨hk1, hk12, hlt, hge⟩ := month_estimate Y r k hr rfl
    have hm' : m' ≤ 12 := Nat.le_trans (Nat.sub_le _ _) hk12
    have hk' : m' + 1 = k := Nat.sub_add_cancel hk1
    -- the spelled-out table with its correction for February is `daysInMonth`
    have hdim : dim + (if (m' == 2 && leap) = true then 1 else 0) = daysInMonth Y m' := by
      unfold dim daysInMonth; rw [hleap]; generalize isLeap Y = L
      revert hm'; generalize m' = m; revert L m; decide
    -- from here on only the day `r` of the year `Y` matters
    rw [hD]
    clear h1 h2 h3 h hb3 hc24 he3 hD
    clear_value pre dim leap Y
    subst hpre
    split
    · next hgt =>
      -- the estimate is the month after: step back by the length of the month before
      obtain ⟨hk2, hge⟩ := hge hgt
      have hm1 : 1 ≤ m' := by omega
      have : pre' = daysBeforeMonth Y m' := by
        unfold pre'
        rw [hdim, ← hk', daysBeforeMonth_succ Y m' hm1 hm', Nat.add_sub_cancel]
      rw [this]
      exact toOrd_yearDay Y m' r hY hm1 hm' hge (hk' ▸ hgt)
    · next hle => exact toOrd_yearDay Y k r hY hk1 hk12 (Nat.le_of_not_lt hle) hlt

theorem toOrd_fromOrd (n : Nat) (h : 1 ≤ n) : (Date.fromOrd n).toOrd = n := (fromOrd_spec n h).1

theorem toOrd_le_maxOrd_iff {d : Date} (h : d.proper) : d.toOrd ≤ maxOrd ↔ d.y ≤ 9999 := by
  have e : daysBeforeYear 10000 = maxOrd := by decide
  obtain ⟨hlo, hhi⟩ := toOrd_bounds h
  constructor
  · intro hle
    apply Nat.le_of_not_lt; intro hy
    have := daysBeforeYear_mono (show 10000 ≤ d.y from hy)
    omega
  · intro hy
    have := daysBeforeYear_mono (show d.y + 1 ≤ 10000 from Nat.succ_le_succ hy)
    omega

theorem toOrd_le_maxOrd {d : Date} (h : d.valid = true) : d.toOrd ≤ maxOrd :=
  (toOrd_le_maxOrd_iff (proper_of_valid h)).2 ((Date.valid_iff d).1 h).2

theorem fromOrd_valid (n : Nat) (h1 : 1 ≤ n) (h2 : n ≤ maxOrd) : (Date.fromOrd n).valid = true := by
  obtain ⟨ho, hp⟩ := fromOrd_spec n h1
  exact (Date.valid_iff _).2 ⟨hp, (toOrd_le_maxOrd_iff hp).1 (by rw [ho]; exact h2)⟩

theorem fromOrd_toOrd (d : Date) (h : d.proper) : Date.fromOrd d.toOrd = d :=
  toOrd_injective (fromOrd_spec _ (toOrd_pos h)).2 h (toOrd_fromOrd _ (toOrd_pos h))

theorem addDays_spec (d : Date) (k : Int) (h1 : 1 ≤ (d.toOrd : Int) + k) (h2 : (d.toOrd : Int) + k ≤ maxOrd) :
    ∃ r, d.addDays k = some r ∧ (r.toOrd : Int) = d.toOrd + k ∧ r.valid = true := by
  refine ⟨Date.fromOrd ((d.toOrd : Int) + k).toNat, by simp [Date.addDays, h1, h2], ?_, ?_⟩
  · rw [toOrd_fromOrd _ (by omega)]; omega
  · exact fromOrd_valid _ (by omega) (by omega)

theorem addDays_diffDays (a b : Date) (h : a.valid = true) : b.addDays (a.diffDays b) = some a := by
  have h1 := toOrd_pos (proper_of_valid h)
  have h2 := toOrd_le_maxOrd h
  have e : (b.toOrd : Int) + a.diffDays b = a.toOrd := by unfold Date.diffDays; omega
  simp only [Date.addDays, e, Int.toNat_natCast, fromOrd_toOrd a (proper_of_valid h)]
  simp; omega

/-- `x - (x - a) % n` is the greatest number up to `x` that is `a` plus a multiple of `n` (for `a ≤ x`),
    and truncating it again changes nothing -/
theorem floor_to_multiple (x a n : Nat) (hn : 0 < n) :
    let t := x - (x - a) % n
    t ≤ x ∧ x < t + n ∧ (t - a) % n = 0 ∧ t - (t - a) % n = t := by
  intro t
  have ht : t = x - (x - a) % n := rfl
  clear_value t
  have hlt := Nat.mod_lt (x - a) hn
  have h0 : (t - a) % n = 0 := by
    rw [ht, Nat.sub_right_comm]; exact Nat.sub_mod_eq_zero_of_mod_eq (Nat.mod_mod _ _).symm
  exact ⟨ht ▸ Nat.sub_le _ _, by omega, h0, by rw [h0]; rfl⟩

namespace C18

/-- `a` is not after `b` -/
def dle (a b : Date) : Prop := a.y < b.y ∨ (a.y = b.y ∧ (a.m < b.m ∨ (a.m = b.m ∧ a.d ≤ b.d)))

theorem dle_of_le {a b : Date} (hy : a.y ≤ b.y) (hm : a.m ≤ b.m) (hd : a.d ≤ b.d) : dle a b := by
  unfold dle; omega

/-- truncation of the year to `a` plus a multiple of `n`: decades, centuries, millennia (the last conjunct in the
    form `dateTrunc … t = some t` takes after unfolding) -/
theorem trunc_years (x : Date) (a n : Nat) (hn : 0 < n) (hd : 1 ≤ x.d) (hm : 1 ≤ x.m) :
    let t : Date := ⟨x.y - (x.y - a) % n, 1, 1⟩
    dle t x ∧ (t.y - a) % n = 0 ∧ x.y < t.y + n ∧ some (Date.mk (t.y - (t.y - a) % n) 1 1) = some t := by
  obtain ⟨hle, hlt, hmod, hfix⟩ := floor_to_multiple x.y a n hn
  exact ⟨dle_of_le hle hm hd, hmod, hlt, congrArg (fun y => some (Date.mk y 1 1)) hfix⟩

end C18

theorem dateTrunc_week (d : Date) (hv : d.valid = true) :
    ∃ t, dateTrunc "week" d = some t ∧ t.weekday = 0 ∧ t.toOrd ≤ d.toOrd ∧ d.toOrd < t.toOrd + 7 ∧
      dateTrunc "week" t = some t := by
  have h1 := toOrd_pos (proper_of_valid hv)
  have h2 := toOrd_le_maxOrd hv
  obtain ⟨r, hr, ho, hrv⟩ := addDays_spec d (-(d.weekday : Int)) (by unfold Date.weekday; omega) (by omega)
  have hw : r.weekday = 0 := by unfold Date.weekday at *; omega
  refine ⟨r, by simpa [dateTrunc] using hr, hw, by omega, by unfold Date.weekday at ho; omega, ?_⟩
  -- a Monday truncates to itself
  simpa [dateTrunc, hw, Date.diffDays] using addDays_diffDays r r hrv

/-- week 1 starts on a Monday at most three days from January 1st (ordinal `daysBeforeYear y + 1`) -/
theorem isoWeek1Monday_spec (y : Nat) :
    (isoWeek1Monday y + 6) % 7 = 0 ∧ (daysBeforeYear y : Int) - 2 ≤ isoWeek1Monday y ∧
      isoWeek1Monday y ≤ (daysBeforeYear y : Int) + 4 := by
  unfold isoWeek1Monday Date.toOrd
  dsimp only
  rw [daysBeforeMonth_one]
  split <;> omega

/-- day `n` in the ISO year whose week 1 starts on the Monday `M`, at most 53 weeks before: the numbers
    of its week and weekday are the quotient and the remainder of the days since `M`, counted from 1 -/
theorem iso_week_day {M : Int} {n : Nat} (hM : (M + 6) % 7 = 0) (h0 : M ≤ n) (h1 : n < M + 371) :
    1 ≤ (((n : Int) - M) / 7).toNat + 1 ∧ (((n : Int) - M) / 7).toNat + 1 ≤ 53 ∧
    (((n : Int) - M) % 7).toNat + 1 = (n + 6) % 7 + 1 ∧
    M + ((((((n : Int) - M) / 7).toNat + 1 : Nat) : Int) - 1) * 7 +
      ((((((n : Int) - M) % 7).toNat + 1 : Nat) : Int) - 1) = n := by
  omega

theorem isocalendar_spec {d : Date} (h : d.proper) :
    1 ≤ d.isocalendar.2.1 ∧ d.isocalendar.2.1 ≤ 53 ∧ d.isocalendar.2.2 = d.weekday + 1 ∧
    isoWeek1Monday d.isocalendar.1 + ((d.isocalendar.2.1 : Int) - 1) * 7 + ((d.isocalendar.2.2 : Int) - 1) = d.toOrd := by
  obtain ⟨hlo, hhi⟩ := toOrd_bounds h
  have hnext := daysBeforeYear_succ_bounds d.y h.1
  obtain ⟨m1, l1, u1⟩ := isoWeek1Monday_spec d.y
  simp only [Date.isocalendar, Date.weekday, Int.fdiv_eq_ediv_of_nonneg _ (by decide : (0:Int) ≤ 7),
    Int.fmod_eq_emod_of_nonneg _ (by decide : (0:Int) ≤ 7)]
  have hneg : ((d.toOrd : Int) - isoWeek1Monday d.y) / 7 < 0 ↔ (d.toOrd : Int) < isoWeek1Monday d.y := by omega
  split
  · next hq =>
    -- before week 1 of its year: in the last week of the year before
    have hlt := hneg.1 hq
    -- year 1 starts on a Monday (ordinal 1), so there is a year before
    have hy : 2 ≤ d.y := by
      apply Nat.le_of_not_lt; intro hy
      have : d.y = 1 := by have := h.1; omega
      rw [this] at hlt hlo
      have : isoWeek1Monday 1 = 1 := by decide
      omega
    have hprev := daysBeforeYear_succ_bounds (d.y - 1) (by omega)
    rw [show d.y - 1 + 1 = d.y by omega] at hprev
    obtain ⟨m0, l0, u0⟩ := isoWeek1Monday_spec (d.y - 1)
    -- the week-1 Mondays of the two years, each within three days of a January 1st and those 365 or
    -- 366 days apart, are 364 or 371 days apart
    exact iso_week_day m0 (by omega) (by omega)
  · next hq =>
    have hge := Int.not_lt.1 (mt hneg.2 hq)
    split
    · next hw =>
      -- on or after the Monday of next year's week 1, which is at most three days before that year
      simp only [Bool.and_eq_true, decide_eq_true_eq] at hw
      obtain ⟨m2, l2, -⟩ := isoWeek1Monday_spec (d.y + 1)
      obtain ⟨-, -, hwd, -⟩ := iso_week_day m1 hge (by omega)
      refine ⟨Nat.le_refl 1, (by decide : 1 ≤ 53), hwd, ?_⟩
      dsimp only
      omega
    · exact iso_week_day m1 hge (by omega)

end Bql
