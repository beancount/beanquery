/-
  The clauses of SELECT and the `from` rule: what each clause parser does on the tokens of its clause.
  Where a clause parser calls a recursive parser, the eventual result of that call is a hypothesis
  (the mutual induction of ParserRT2 supplies it).
-/
import BqlVerif.Proofs.ParserRT
set_option autoImplicit false
namespace Bql.Syn

theorem stripWord_append {w : String} {x rest : List Tok} (hx : stripWord w x = none) (hr : stripWord w rest = none) :
    stripWord w (x ++ rest) = none := by
  cases x with
  | nil => exact hr
  | cons t r => simpa [stripWord] using hx

theorem stripStar_miss {ts : List Tok} (h : headOKE ts = true) : stripStar ts = none := by
  unfold stripStar
  split
  · cases h
  · rfl

theorem stripDistinct_print (d : Bool) (tail : List Tok) (hmiss : stripWord "distinct" tail = none) :
    stripDistinct (distinctToks d ++ tail) = (d, tail) := by
  cases d with
  | true => simp [distinctToks, stripDistinct, stripWord_hit]
  | false => simp [distinctToks, stripDistinct, hmiss]

theorem parseAlias_print (a : Option String) (ha : optIdentOK a = true) (tail : List Tok) (hmiss : stripWord "as" tail = none) :
    parseAlias (aliasToks a ++ tail) = some (a, tail) := by
  cases a with
  | none => simp [aliasToks, parseAlias, hmiss]
  | some n => simp [aliasToks, parseAlias, stripWord_hit, identOf, kw_of_ident ha]

/-- `['AT' identifier]` of BALANCES / JOURNAL is `['AS' identifier]` with another word -/
theorem parseAt_print (sf : Option String) (h : optIdentOK sf = true) (tail : List Tok) (hmiss : stripWord "at" tail = none) :
    parseAt (atToks sf ++ tail) = some (sf, tail) := by
  cases sf with
  | none => simp [atToks, parseAt, hmiss]
  | some n => simp [atToks, parseAt, stripWord_hit, identOf, kw_of_ident h]

theorem follow_alias (a : Option String) (tail : List Tok) (h : Follow 5 tail) : Follow 5 (aliasToks a ++ tail) :=
  .append (by cases a <;> simp [aliasToks, Follow, tokLevel, wordLevel]) h

theorem parseOrdering_print (desc asc : Bool) (tail : List Tok) (h1 : stripWord "desc" tail = none) (h2 : stripWord "asc" tail = none) :
    parseOrdering (orderingToks desc asc ++ tail) = (desc, tail) := by
  cases desc with
  | true => simp [orderingToks, parseOrdering, stripWord_hit]
  | false =>
    cases asc with
    | true => simp [orderingToks, parseOrdering, stripWord, isW]
    | false => simp [orderingToks, parseOrdering, h1, h2]

theorem follow_ordering (desc asc : Bool) (tail : List Tok) (h : Follow 5 tail) : Follow 5 (orderingToks desc asc ++ tail) :=
  .append (by cases desc <;> cases asc <;> simp [orderingToks, Follow, tokLevel, wordLevel]) h

theorem pivotKey_print (a : PKey) (ha : a.ok = true) (rest : List Tok) : pivotKey (a.tok :: rest) = some (a.key, rest) := by
  cases a with
  | idx n => rfl
  | col w => simp [PKey.tok, pivotKey, kw_of_ident ha, PKey.key]

def pivotEmbed : Option (PKey × PKey) → List KeyRef
  | none => []
  | some (a, b) => [a.key, b.key]

def pivotOK : Option (PKey × PKey) → Prop
  | none => True
  | some (a, b) => a.ok = true ∧ b.ok = true

theorem parsePivot_print (p : Option (PKey × PKey)) (hp : pivotOK p) (tail : List Tok) (hc : CFollow 6 tail) :
    parsePivot (pivotToks p ++ tail) = some (pivotEmbed p, tail) := by
  cases p with
  | none =>
    simp [pivotToks, parsePivot, stripWords2, stripWord_cf "pivot" 6 tail hc (by simp [clauseLevel]), pivotEmbed]
  | some ab =>
    obtain ⟨a, b⟩ := ab
    simp [pivotToks, parsePivot, stripWords2, stripWord_hit, pivotKey_print a hp.1, pivotKey_print b hp.2, pivotEmbed]

theorem parseLimit_print (l : Option Nat) (rest : List Tok) (hc : CFollow 7 rest) :
    parseLimit (limitToks l ++ rest) = some (l, rest) := by
  cases l with
  | none => simp [limitToks, parseLimit, stripWord_cf "limit" 7 rest hc (by simp [clauseLevel])]
  | some n => simp [limitToks, parseLimit, stripWord_hit]

def openToks : Option Date → List Tok
  | some d => [.word "open", .word "on", .date d.y d.m d.d]
  | none => []
def closeToks : CloseSpec → List Tok
  | .absent => []
  | .flag => [.word "close"]
  | .on d => [.word "close", .word "on", .date d.y d.m d.d]
def clearToks (b : Bool) : List Tok := if b then [.word "clear"] else []

theorem printClauses_eq (o : Option Date) (c : CloseSpec) (cl : Bool) (tail : List Tok) :
    printClauses o c cl ++ tail = openToks o ++ (closeToks c ++ (clearToks cl ++ tail)) := by
  cases o <;> cases c <;> cases cl <;> rfl

theorem optDate_print (d : Date) (h : d.valid = true) (rest : List Tok) :
    optDate (.date d.y d.m d.d :: rest) = some (d, rest) := by
  simp [optDate, h]

theorem parseClear_print (cl : Bool) {tail : List Tok} {k : Nat} (h : CFollow k tail) :
    parseClear (clearToks cl ++ tail) = (cl, tail) := by
  cases cl with
  | true => simp [clearToks, parseClear, stripWord_hit]
  | false => simp [clearToks, parseClear, stripWord_cf "clear" k tail h (by simp [clauseLevel])]

/-- OPEN, CLOSE, ON are not found where CLEAR or the tail stands -/
theorem stripWord_clear (w : String) (hw : "clear" ≠ w) (h0 : clauseLevel (.word w) = 0) (cl : Bool) {tail : List Tok} {k : Nat}
    (h : CFollow k tail) : stripWord w (clearToks cl ++ tail) = none :=
  stripWord_append (by cases cl <;> simp [clearToks, stripWord, isW, hw]) (stripWord_cf w k tail h (by omega))

theorem parseCloseClear_print (c : CloseSpec) (cl : Bool) (hc : closeOK c = true) {tail : List Tok} {k : Nat} (h : CFollow k tail) :
    parseCloseClear (closeToks c ++ (clearToks cl ++ tail)) = some (c, cl, tail) := by
  cases c with
  | absent =>
    simp [closeToks, parseCloseClear, parseClose, stripWord_clear "close" (by decide) (by simp [clauseLevel]) cl h,
      parseClear_print cl h]
  | flag =>
    simp [closeToks, parseCloseClear, parseClose, stripWord_hit, stripWord_clear "on" (by decide) (by simp [clauseLevel]) cl h,
      parseClear_print cl h]
  | on d => simp [closeToks, parseCloseClear, parseClose, stripWord_hit, optDate_print d hc, parseClear_print cl h]

theorem parseOpenOpt_print (o : Option Date) (ho : optDateOK o = true) (c : CloseSpec) (cl : Bool) {tail : List Tok} {k : Nat}
    (hc : CFollow k tail) :
    parseOpenOpt (openToks o ++ (closeToks c ++ (clearToks cl ++ tail))) = some (o, closeToks c ++ (clearToks cl ++ tail)) := by
  cases o with
  | none =>
    have : stripWord "open" (closeToks c ++ (clearToks cl ++ tail)) = none :=
      stripWord_append (by cases c <;> simp [closeToks, stripWord, isW])
        (stripWord_clear "open" (by decide) (by simp [clauseLevel]) cl hc)
    simp [openToks, parseOpenOpt, this]
  | some d => simp [openToks, parseOpenOpt, stripWord_hit, optDate_print d ho]

theorem follow_clauses (o : Option Date) (c : CloseSpec) (cl : Bool) (tail : List Tok) (h : Follow 5 tail) :
    Follow 5 (printClauses o c cl ++ tail) := by
  rw [printClauses_eq]
  exact .append (by cases o <;> simp [openToks, Follow, tokLevel, wordLevel]) (.append (by cases c <;> simp [closeToks, Follow, tokLevel, wordLevel])
    (.append (by cases cl <;> simp [clearToks, Follow, tokLevel, wordLevel]) h))

theorem parseFromBody_clauses {o : Option Date} {c : CloseSpec} {cl : Bool} (hw : wfFrom (.clauses o c cl)) {tail : List Tok} {kf : Nat}
    (hc : CFollow kf tail) : Ev (fun m => parseFromBody m (printClauses o c cl ++ tail)) (.from none o c cl, tail) :=
  Ev.of_succ fun m => by
    obtain ⟨hne, ho, hcl⟩ := hw
    have hcc := parseCloseClear_print c cl hcl hc
    rw [printClauses_eq]
    cases o with
    | some d => simp [openToks, parseFromBody, bodyAct, isW, parseOpenFirst, stripWord_hit, optDate_print d ho, hcc]
    | none =>
      cases c with
      | absent =>
        cases cl with
        | true => simp [openToks, closeToks, clearToks, parseFromBody, bodyAct, isW]
        | false => simp at hne
      | _ =>
        simp only [closeToks, List.cons_append, List.nil_append] at hcc
        simp [openToks, closeToks, parseFromBody, bodyAct, isW, hcc]

theorem fromAct_clauses (o : Option Date) (c : CloseSpec) (cl : Bool) (tail : List Tok)
    (hne : o.isSome = true ∨ c ≠ .absent ∨ cl = true) : fromAct (printClauses o c cl ++ tail) = .body (printClauses o c cl ++ tail) := by
  rw [printClauses_eq]
  cases o <;> cases c <;> cases cl <;> first | rfl | simp at hne

theorem parseFromBody_expr {e : LExpr} {o : Option Date} {c : CloseSpec} {cl : Bool} (hw : wfFrom (.expr e o c cl)) {tail : List Tok} {kf : Nat}
    (hc : CFollow kf tail) (hE : ∀ rest, Follow 5 rest → Ev (fun m => parseExpr m (printExpr e ++ rest)) (embedExpr e, rest)) :
    Ev (fun m => parseFromBody m (printExpr e ++ (printClauses o c cl ++ tail))) (.from (some (embedExpr e)) o c cl, tail) := by
  obtain ⟨hwe, hs, ho, hcl⟩ := hw
  refine Evp.step (hE _ (follow_clauses o c cl tail hc.follow)) fun m h => ?_
  simp only [parseFromBody, bodyAct_expr (fromStartOK_append _ (printExpr_ne_nil e hwe) hs), h]
  rw [printClauses_eq, parseOpenOpt_print o ho c cl hc]
  simp [parseCloseClear_print c cl hcl hc]

theorem parseFromOpt_none (tail : List Tok) (hmiss : stripWord "from" tail = none) (f : Nat) :
    parseFromOpt f tail = some (.none, tail) := by
  simp [parseFromOpt, hmiss]

theorem stage_targets_star (tail : List Tok) : Ev (fun m => parseTargetList m (.sym .star :: tail)) (none, tail) :=
  Ev.of_succ fun m => by simp [parseTargetList, stripStar]

theorem stage_targets_list {ts : List Tok} {tl : List Target} {tail : List Tok} (hh : headOKE ts = true)
    (hT : Ev (fun m => parseTargets m ts) (tl, tail)) : Ev (fun m => parseTargetList m ts) (some tl, tail) :=
  Evp.step hT fun m h => by simp [parseTargetList, stripStar_miss hh, h]

theorem stage_from_none (tail : List Tok) (hc : CFollow 1 tail) : Ev (fun m => parseFromClause m tail) (.none, tail) :=
  Ev.of_succ fun m => by simp [parseFromClause, stripWord_cf "from" 1 tail hc (by simp [clauseLevel])]

theorem stage_from_table (n : String) (tail : List Tok) :
    Ev (fun m => parseFromClause m (.word "from" :: .table n :: tail)) (.table n, tail) :=
  Ev.of_succ fun m => by simp [parseFromClause, stripWord_hit, fromAct]

theorem stage_from_sub {r : List Tok} {s : Select} {tail : List Tok}
    (h : Ev (fun m => parseSelect m (.word "select" :: r)) (s, .sym .rparen :: tail)) :
    Ev (fun m => parseFromClause m (.word "from" :: .sym .lparen :: .word "select" :: r)) (.sub s, tail) :=
  Evp.step h fun m h => by simp [parseFromClause, stripWord_hit, fromAct, isW, h]

theorem stage_from_body {ts : List Tok} {r : FromC × List Tok} (ha : fromAct ts = .body ts) (h : Ev (fun m => parseFromBody m ts) r) :
    Ev (fun m => parseFromClause m (.word "from" :: ts)) r :=
  Evp.step h fun m h => by simp [parseFromClause, stripWord_hit, ha, h]

theorem stage_where_none (tail : List Tok) (hc : CFollow 2 tail) : Ev (fun m => parseWhere m tail) (none, tail) :=
  Ev.of_succ fun m => by simp [parseWhere, stripWord_cf "where" 2 tail hc (by simp [clauseLevel])]

theorem stage_where_some {ts : List Tok} {v : Expr} {tail : List Tok} (h : Ev (fun m => parseExpr m ts) (v, tail)) :
    Ev (fun m => parseWhere m (.word "where" :: ts)) (some v, tail) :=
  Evp.step h fun m h => by simp [parseWhere, stripWord_hit, h]

theorem stage_group_nil (tail : List Tok) (hc : CFollow 3 tail) : Ev (fun m => parseGroup m tail) (([], none), tail) :=
  Ev.of_succ fun m => by simp [parseGroup, stripWords2, stripWord_cf "group" 3 tail hc (by simp [clauseLevel])]

theorem stage_group_keys {ts : List Tok} {keys : List KeyRef} {tail : List Tok} (hc : CFollow 4 tail)
    (hK : Ev (fun m => parseKeys m ts) (keys, tail)) :
    Ev (fun m => parseGroup m (.word "group" :: .word "by" :: ts)) ((keys, none), tail) :=
  Evp.step hK fun m h => by
    simp [parseGroup, stripWords2, stripWord_hit, h, stripWord_cf "having" 4 tail hc (by simp [clauseLevel])]

theorem stage_group_having {ts hs : List Tok} {keys : List KeyRef} {v : Expr} {tail : List Tok}
    (hK : Ev (fun m => parseKeys m ts) (keys, .word "having" :: hs)) (hE : Ev (fun m => parseExpr m hs) (v, tail)) :
    Ev (fun m => parseGroup m (.word "group" :: .word "by" :: ts)) ((keys, some v), tail) :=
  (Evp.and hK hE).step fun m ⟨h1, h2⟩ => by simp [parseGroup, stripWords2, stripWord_hit, h1, h2]

theorem stage_order_nil (tail : List Tok) (hc : CFollow 5 tail) : Ev (fun m => parseOrderBy m tail) ([], tail) :=
  Ev.of_succ fun m => by simp [parseOrderBy, stripWords2, stripWord_cf "order" 5 tail hc (by simp [clauseLevel])]

theorem stage_order_some {ts : List Tok} {os : List (KeyRef × Bool)} {tail : List Tok}
    (hO : Ev (fun m => parseOrders m ts) (os, tail)) :
    Ev (fun m => parseOrderBy m (.word "order" :: .word "by" :: ts)) (os, tail) :=
  Evp.step hO fun m h => by simp [parseOrderBy, stripWords2, stripWord_hit, h]

/-! ### SELECT in pieces: the `match`es of `printSelect`, `embedSelect`, `wfSelect` under names -/

def targetToks : Option (List LTarget) → List Tok
  | none => [.sym .star]
  | some ts => printTargets ts
def groupToks : List LKey → List Tok
  | [] => []
  | k :: ks => .word "group" :: .word "by" :: printKeys (k :: ks)
def orderToks : List LOrder → List Tok
  | [] => []
  | o :: os => .word "order" :: .word "by" :: printOrders (o :: os)

theorem printSelect_eq (d : Bool) (ts : Option (List LTarget)) (f : LFrom) (w : Option LExpr) (g : List LKey) (h : Option LExpr)
    (o : List LOrder) (p : Option (PKey × PKey)) (l : Option Nat) :
    printSelect (.mk d ts f w g h o p l) = .word "select" :: (distinctToks d ++ (targetToks ts ++ (printFrom f ++ (optExprToks "where" w ++
      (groupToks g ++ (optExprToks "having" h ++ (orderToks o ++ (pivotToks p ++ limitToks l)))))))) := by
  cases g <;> cases o <;> cases ts <;> cases w <;> cases h <;> rfl

theorem embedSelect_eq (d : Bool) (ts : Option (List LTarget)) (f : LFrom) (w : Option LExpr) (g : List LKey) (h : Option LExpr)
    (o : List LOrder) (p : Option (PKey × PKey)) (l : Option Nat) :
    embedSelect (.mk d ts f w g h o p l) = .mk (ts.map embedTargets) (embedFrom f) (w.map embedExpr) (embedKeys g) (h.map embedExpr)
      (embedOrders o) (pivotEmbed p) l d := by
  cases ts <;> cases w <;> cases h <;> cases p <;> first | rfl | (rename_i ab; obtain ⟨a, b⟩ := ab; rfl)

def optWf : Option LExpr → Prop
  | none => True
  | some e => wfExpr e

def targetsOK : Option (List LTarget) → Prop
  | none => True
  | some tl => tl ≠ [] ∧ wfTargets tl

def havingOK (g : List LKey) : Option LExpr → Prop
  | none => True
  | some e => wfExpr e ∧ g ≠ []

theorem wfSelect_def (d : Bool) (ts : Option (List LTarget)) (f : LFrom) (w : Option LExpr) (g : List LKey) (hv : Option LExpr)
    (o : List LOrder) (p : Option (PKey × PKey)) (l : Option Nat) :
    wfSelect (.mk d ts f w g hv o p l) ↔
      (targetsOK ts ∧ wfFrom f ∧ optWf w ∧ wfKeys g ∧ havingOK g hv ∧ wfOrders o ∧ pivotOK p) := by
  cases ts <;> cases w <;> cases hv <;> cases p <;>
    first
    | exact Iff.rfl
    | (rename_i ab; obtain ⟨a, b⟩ := ab; exact Iff.rfl)

/-- each clause, present or not, leaves a tail that no earlier clause parser takes for its own -/
theorem cfollow_opt (k : Nat) (x tail : List Tok) (hx : CFollow k x) (h : CFollow (k + 1) tail) : CFollow k (x ++ tail) := by
  cases x with
  | nil => exact h.mono (Nat.le_succ k)
  | cons t r => exact hx

theorem cfollow_from (f : LFrom) (tail : List Tok) (h : CFollow 1 tail) : CFollow 0 (printFrom f ++ tail) :=
  cfollow_opt 0 _ tail (by cases f <;> simp [printFrom, CFollow, clauseLevel]) h

theorem targets_head (tl : List LTarget) (hne : tl ≠ []) (hw : wfTargets tl) (tail : List Tok) :
    headOKE (printTargets tl ++ tail) = true := by
  match tl, hne, hw with
  | [.mk e a], _, hw => simpa [printTargets, printTarget, List.append_assoc] using expr_head e hw.1 _
  | .mk e a :: _ :: _, _, hw => simpa [printTargets, printTarget, List.append_assoc] using expr_head e hw.1 _

/-- **SELECT from its clauses**: if each clause parser reads the tokens of its clause before any tail that later clauses can
    start, `parseSelect` reads the statement.  `CFollow` orders the clause words, so each tail is in the follow set the
    earlier clause needs. -/
theorem select_of_clauses (d : Bool) (ts : Option (List LTarget)) (f : LFrom) (w : Option LExpr) (g : List LKey) (hv : Option LExpr)
    (o : List LOrder) (p : Option (PKey × PKey)) (l : Option Nat) (rest : List Tok) (hs : CFollow 7 rest)
    (hwT : targetsOK ts) (hwP : pivotOK p)
    (h1 : ∀ T, CFollow 0 T → Ev (fun m => parseTargetList m (targetToks ts ++ T)) (ts.map embedTargets, T))
    (h2 : ∀ T, CFollow 1 T → Ev (fun m => parseFromClause m (printFrom f ++ T)) (embedFrom f, T))
    (h3 : ∀ T, CFollow 2 T → Ev (fun m => parseWhere m (optExprToks "where" w ++ T)) (w.map embedExpr, T))
    (h4 : ∀ T, CFollow 4 T → Ev (fun m => parseGroup m (groupToks g ++ (optExprToks "having" hv ++ T))) ((embedKeys g, hv.map embedExpr), T))
    (h5 : ∀ T, CFollow 5 T → Ev (fun m => parseOrderBy m (orderToks o ++ T)) (embedOrders o, T)) :
    Ev (fun m => parseSelect m (printSelect (.mk d ts f w g hv o p l) ++ rest)) (embedSelect (.mk d ts f w g hv o p l), rest) := by
  have c7 := cfollow_opt 6 (limitToks l) rest (by cases l <;> simp [limitToks, CFollow, clauseLevel]) hs
  have c6 := cfollow_opt 5 (pivotToks p) _ (by rcases p with _ | ⟨a, b⟩ <;> simp [pivotToks, CFollow, clauseLevel]) c7
  have c5 := cfollow_opt 4 (orderToks o) _ (by cases o <;> simp [orderToks, CFollow, clauseLevel]) c6
  have c4 := cfollow_opt 3 (optExprToks "having" hv) _ (by cases hv <;> simp [optExprToks, CFollow, clauseLevel]) c5
  have c3 := cfollow_opt 2 (groupToks g) _ (by cases g <;> simp [groupToks, CFollow, clauseLevel]) c4
  have c2 := cfollow_opt 1 (optExprToks "where" w) _ (by cases w <;> simp [optExprToks, CFollow, clauseLevel]) c3
  have c1 := cfollow_from f _ c2
  -- neither `*` nor the first target is the word DISTINCT
  have hd : ∀ T, stripDistinct (distinctToks d ++ (targetToks ts ++ T)) = (d, targetToks ts ++ T) := fun T =>
    stripDistinct_print d _ (by
      cases ts with
      | none => rfl
      | some tl => exact stripWord_miss "distinct" _ (headOKE_head (targets_head tl hwT.1 hwT.2 _)) (by decide))
  rw [printSelect_eq, embedSelect_eq]
  simp only [List.cons_append, List.append_assoc]
  exact (Evp.and (h1 _ c1) (Evp.and (h2 _ c2) (Evp.and (h3 _ c3) (Evp.and (h4 _ c5) (h5 _ c6))))).step fun m ⟨e1, e2, e3, e4, e5⟩ => by
    simp only [parseSelect, stripWord_hit, hd, e1, e2, e3, e4, e5, parsePivot_print p hwP _ c7, parseLimit_print l rest hs]

end Bql.Syn
