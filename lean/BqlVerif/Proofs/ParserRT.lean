/-
  What the round-trip induction uses below the level of the recursion: how the dispatch functions
  decide on printed tokens, literals and list items, the follow sets of the clause level, what stops
  each loop, and how the alternatives of FROM are told apart.
-/
import BqlVerif.Proofs.ParserStart
set_option autoImplicit false
namespace Bql.Syn

/-- the next token is not an opening parenthesis (a word followed by one is a function call) -/
def NoCall : List Tok → Prop
  | .sym .lparen :: _ => False
  | _ => True

theorem NoCall.of_follow {rest : List Tok} (h : Follow 0 rest) : NoCall rest := by
  unfold NoCall
  split
  · exact absurd h (Nat.lt_irrefl 0)
  · trivial

theorem atomAct_word (w : String) (rest : List Tok) (hw : (w == "select") = false) (hc : NoCall rest) :
    atomAct (.word w :: rest) = .word w rest := by
  simp only [atomAct, hw, Bool.false_eq_true, ↓reduceIte]
  split
  all_goals first | rfl | exact hc.elim

theorem atomAct_func (w : String) {r : List Tok} (hw : (w == "select") = false) (hs : headOKE r = true) :
    atomAct (.word w :: .sym .lparen :: r) = .func w r := by
  -- an expression starts neither with `*` nor with `)`
  cases r with
  | nil => cases hs
  | cons t r' =>
    simp only [atomAct, hw, Bool.false_eq_true, ↓reduceIte]
    cases t with
    | sym s => cases s <;> first | rfl | cases hs
    | _ => rfl

theorem dropLeadComma_headOKE {ts : List Tok} (h : headOKE ts = true) : dropLeadComma ts = ts := by
  unfold dropLeadComma
  split
  · cases h
  · rfl

theorem ident_not_select (n : String) (h : identOK n = true) : (n == "select") = false :=
  beq_false_of_ne fun e => absurd (kw_of_ident (e ▸ h)) (by decide)

theorem factorAct_paren {ts : List Tok} (h : noLitComma ts = true) : factorAct (.sym .lparen :: ts) = .paren ts := by
  -- only `( literal ,` is not a parenthesised expression
  match ts, h with
  | [], _ | [_], _ => rfl
  | t :: u :: r, h =>
    cases u with
    | sym s =>
      cases s with
      | comma => simp [factorAct, show isLitTok t = false by simpa [noLitComma] using h]
      | _ => rfl
    | _ => rfl

theorem factorAct_prim {ts : List Tok} (h : primStart ts = true) : factorAct ts = .prim := by
  unfold primStart at h
  split at h
  all_goals first | rfl | cases h | simp [factorAct, h]

theorem keyAct_expr {x : List Tok} (rest : List Tok) (hx : x ≠ []) (h : keyStartOK x = true) : keyAct (x ++ rest) = .expr := by
  cases x with
  | nil => exact absurd rfl hx
  | cons t r =>
    cases t with
    | dec c e d => cases d <;> first | rfl | cases h
    | int n => cases h
    | date y m d => cases h
    | _ => rfl

theorem litOfTok_lit (l : Lit) (h : l.wf = true) : litOfTok l.tok = some l.value := by
  cases l with
  | bool b => cases b <;> rfl
  | date d =>
    simp only [Lit.wf] at h
    simp [Lit.tok, litOfTok, Lit.value, h]
  | _ => rfl

theorem litOfTok_word_none (n : String) (hk : isKeyword n = false) (hn : n ≠ "null") : litOfTok (.word n) = none := by
  have ht : n ≠ "true" := by rintro rfl; exact absurd hk (by decide)
  have hf : n ≠ "false" := by rintro rfl; exact absurd hk (by decide)
  simp [litOfTok, hn, ht, hf]

def itemToks : Option Lit → List Tok
  | none => []
  | some l => [l.tok]

theorem printListItems_cons (x : Option Lit) (xs : List (Option Lit)) :
    printListItems (x :: xs) = .sym .comma :: (itemToks x ++ printListItems xs) := by
  cases x <;> rfl

def itemVals : Option Lit → List Value
  | none => []
  | some .null => []
  | some l => [l.value]

theorem listValues_cons (x : Option Lit) (xs : List (Option Lit)) : listValues (x :: xs) = itemVals x ++ listValues xs := by
  cases x with
  | none => rfl
  | some l => cases l <;> rfl

theorem takeItem_print (acc : List Value) (x : Option Lit) (hx : itemsOK [x] = true) (s : Sym) (r : List Tok) :
    takeItem acc (itemToks x ++ .sym s :: r) = some (acc ++ itemVals x, .sym s :: r) := by
  cases x with
  | none => simp [itemToks, itemVals, takeItem, isLitTok]
  | some l =>
    have hl : l.wf = true := by simpa [itemsOK] using hx
    simp only [itemToks, List.cons_append, List.nil_append, takeItem, lit_tok_isLit, ↓reduceIte, litOfTok_lit l hl]
    cases l <;> simp [Lit.value, itemVals]

theorem listItems_print (xs : List (Option Lit)) : ∀ (x : Option Lit) (acc : List Value) (rest : List Tok) (f : Nat),
    itemsOK (x :: xs) = true → xs.length + 1 ≤ f →
    listItems f acc (itemToks x ++ (printListItems xs ++ rest)) = some (acc ++ listValues (x :: xs), rest) := by
  induction xs with
  | nil =>
    intro x acc rest f hok hf
    obtain ⟨k, rfl⟩ : ∃ k, f = k + 1 := ⟨f - 1, by omega⟩
    simp only [printListItems, List.cons_append, List.nil_append, listItems, takeItem_print acc x hok]
    simp [listValues_cons, listValues]
  | cons y ys ih =>
    intro x acc rest f hok hf
    obtain ⟨k, rfl⟩ : ∃ k, f = k + 1 := ⟨f - 1, by simp at hf; omega⟩
    have hx : itemsOK [x] = true ∧ itemsOK (y :: ys) = true := by cases x <;> simpa [itemsOK] using hok
    rw [printListItems_cons]
    simp only [List.cons_append, listItems, takeItem_print acc x hx.1]
    rw [List.append_assoc, ih y (acc ++ itemVals x) rest k hx.2 (by simp at hf; omega), listValues_cons x, List.append_assoc]

theorem printListItems_length (xs : List (Option Lit)) : xs.length + 1 ≤ (printListItems xs).length := by
  induction xs with
  | nil => simp [printListItems]
  | cons x xs ih => cases x <;> simp [printListItems] <;> omega

def clauseLevel : Tok → Nat
  | .word w =>
    if w = "from" then 1 else if w = "where" then 2 else if w = "group" then 3 else if w = "having" then 4
    else if w = "order" then 5 else if w = "pivot" then 6 else if w = "limit" then 7 else 0
  | .sym .rparen => 8
  | _ => 0

/-- the head of the list (if any) is a clause word of level above `k` or a closing parenthesis -/
def CFollow (k : Nat) : List Tok → Prop
  | [] => True
  | t :: _ => k < clauseLevel t

theorem CFollow.head {k : Nat} {rest : List Tok} (h : CFollow k rest) : ∀ t ∈ rest.head?, k < clauseLevel t := by
  cases rest with
  | nil => simp
  | cons t r => simpa [CFollow] using h

theorem CFollow.mono {k j : Nat} {rest : List Tok} (h : CFollow k rest) (hj : j ≤ k) : CFollow j rest := by
  cases rest with
  | nil => trivial
  | cons t r => exact Nat.lt_of_le_of_lt hj h

theorem clauseLevel_tokLevel (t : Tok) (h : 0 < clauseLevel t) : tokLevel t = 6 := by
  cases t with
  | word w =>
    -- a word of a lower level is one of six words, none of them a clause word
    simp only [tokLevel, wordLevel]
    split
    · rename_i hw
      rcases hw with rfl | rfl | rfl | rfl <;> cases h
    split
    · subst w; cases h
    split
    · subst w; cases h
    · rfl
  | sym s => cases s <;> first | rfl | cases h
  | _ => cases h

theorem CFollow.follow {k : Nat} {rest : List Tok} (h : CFollow k rest) : Follow 5 rest := by
  cases rest with
  | nil => trivial
  | cons t r =>
    have : 0 < clauseLevel t := Nat.lt_of_le_of_lt (Nat.zero_le k) h
    simp only [Follow, clauseLevel_tokLevel t this]; omega

theorem CFollow.noComma {k : Nat} {rest : List Tok} (h : CFollow k rest) : NoComma rest :=
  fun e => Nat.not_lt_zero k (h.head _ e)

theorem stripWord_cf (w : String) (k : Nat) (rest : List Tok) (h : CFollow k rest) (hw : clauseLevel (.word w) ≤ k) :
    stripWord w rest = none :=
  stripWord_miss w rest h.head (Nat.not_lt.2 hw)

theorem stripWord_follow (w : String) (k : Nat) (rest : List Tok) (h : Follow k rest) (hw : wordLevel w ≤ k) :
    stripWord w rest = none :=
  stripWord_miss w rest h.head (Nat.not_lt.2 hw)

theorem stripNot_miss {ts : List Tok} (h : headOK ts = true) : stripWord "not" ts = none :=
  stripWord_miss "not" ts (headOK_head h) (by decide)

theorem cmpAct_none (rest : List Tok) (h : Follow 3 rest) : cmpAct rest = .none := by
  cases rest with
  | nil => rfl
  | cons t r =>
    have h1 := isW_of_level "not" t 3 h (by decide)
    have h2 := isW_of_level "is" t 3 h (by decide)
    have h3 := isW_of_level "between" t 3 h (by decide)
    simp [cmpAct, h1, h2, h3, cmpOpOf_none t h]

/-! `Follow k rest` is what stops the loop of level `k` at `rest` (level 0: `ev_postfix_done`, level 3: `cmpAct_none`). -/

theorem ev2_mulLoop_done (acc : Expr) (rest : List Tok) (h : Follow 1 rest) :
    Ev2 (fun a b => binLoop mulOpOf (parseFactor a) b acc rest) (acc, rest) :=
  ev2_binLoop_done mulOpOf parseFactor acc rest fun t ht => mulOpOf_none t (h.head t ht)

theorem ev2_addLoop_done (acc : Expr) (rest : List Tok) (h : Follow 2 rest) :
    Ev2 (fun a b => binLoop addOpOf (parseTerm a) b acc rest) (acc, rest) :=
  ev2_binLoop_done addOpOf parseTerm acc rest fun t ht => addOpOf_none t (h.head t ht)

theorem ev2_andLoop_done (acc : List Expr) (rest : List Tok) (h : Follow 4 rest) :
    Ev2 (fun a b => sepLoop "and" (parseInv a) b acc rest) (acc, rest) :=
  ev2_sepLoop_done "and" parseInv acc rest fun t ht => isW_of_level "and" t 4 (h.head t ht) (by decide)

theorem ev2_orLoop_done (acc : List Expr) (rest : List Tok) (h : Follow 5 rest) :
    Ev2 (fun a b => sepLoop "or" (parseConj a) b acc rest) (acc, rest) :=
  ev2_sepLoop_done "or" parseConj acc rest fun t ht => isW_of_level "or" t 5 (h.head t ht) (by decide)

theorem cmpAct_op (op : CmpOp) (r : List Tok) :
    cmpAct (op.toks ++ r) = (match op with | .notin => .notin r | o => .op o.op r) := by
  cases op <;> simp [CmpOp.toks, cmpAct, isW, cmpOpOf, CmpOp.op]

theorem follow_toks (op : CmpOp) {r : List Tok} : Follow 2 (op.toks ++ r) := by
  cases op <;> simp [CmpOp.toks, Follow, tokLevel, wordLevel]

theorem follow_sumop (op : SumOp) {r : List Tok} : Follow 1 (op.tok :: r) := by
  cases op <;> simp [SumOp.tok, Follow, tokLevel]

theorem follow_termop (op : TermOp) {r : List Tok} : Follow 0 (op.tok :: r) := by
  cases op <;> simp [TermOp.tok, Follow, tokLevel]

theorem addOpOf_sumop (op : SumOp) : addOpOf op.tok = some op.op := by cases op <;> rfl
theorem mulOpOf_termop (op : TermOp) : mulOpOf op.tok = some op.op := by cases op <;> rfl

theorem follow_orTail (tl : List LConj) (rest : List Tok) (h : Follow 5 rest) : Follow 4 (printOrTail tl ++ rest) :=
  .append (by cases tl <;> simp [printOrTail, Follow, tokLevel, wordLevel]) (h.mono (by omega))

theorem follow_andTail (tl : List LInv) (rest : List Tok) (h : Follow 4 rest) : Follow 3 (printAndTail tl ++ rest) :=
  .append (by cases tl <;> simp [printAndTail, Follow, tokLevel, wordLevel]) (h.mono (by omega))

theorem stripComma_miss (rest : List Tok) (h : NoComma rest) : stripComma rest = none := by
  unfold stripComma
  split
  · simp at h
  · rfl

theorem fromStartOK_append {x : List Tok} (rest : List Tok) (hx : x ≠ []) (h : fromStartOK x = true) : fromStartOK (x ++ rest) = true := by
  cases x with
  | nil => exact absurd rfl hx
  | cons t r =>
    cases t with
    | sym s =>
      cases s <;> try rfl
      cases r with
      | nil => simp [fromStartOK] at h
      | cons u r' => cases u <;> first | exact h | rfl
    | word w => exact h
    | _ => rfl

theorem fromAct_body {ts : List Tok} (h1 : fromStartOK ts = true) (h2 : headOKE ts = true) : fromAct ts = .body ts := by
  unfold fromAct
  split
  · cases h2
  · rename_i t r
    -- `( select` is the subquery alternative; `fromStartOK` excludes it
    cases t with
    | word w =>
      have : (w == "select") = false := by simpa [fromStartOK] using h1
      simp [isW, this]
    | _ => rfl
  · rfl

theorem bodyAct_expr {ts : List Tok} (h1 : fromStartOK ts = true) : bodyAct ts = .expr := by
  cases ts with
  | nil => rfl
  | cons t r =>
    cases t with
    | word w =>
      simp only [fromStartOK, Bool.and_eq_true, bne_iff_ne, ne_eq] at h1
      simp [bodyAct, isW, h1.1.1, h1.1.2, h1.2]
    | _ => rfl

/-- An atom that `factorAct` sends to `parsePrimary`, followed by a token that stops every loop, is read as that atom at every
    level up to `expression` (used for a parenthesised SELECT, which the grammar reaches through `atom`). -/
theorem passthrough {ts : List Tok} {x : Expr} {rest : List Tok} (hfa : factorAct ts = .prim) (hnot : stripWord "not" ts = none)
    (hf : Follow 5 rest) (h : Ev (fun m => parseAtom m ts) (x, rest)) : Ev (fun m => parseExpr m ts) (x, rest) := by
  have hprim : Ev (fun m => parsePrimary m ts) (x, rest) :=
    (Evp.and h (ev_postfix_done x rest (hf.mono (by omega)))).step fun m ⟨h1, h2⟩ => by simp only [parsePrimary, h1, h2]
  have hfac : Ev (fun m => parseFactor m ts) (x, rest) :=
    Evp.step hprim fun m h1 => by simp only [parseFactor, hfa, h1]
  have hterm : Ev (fun m => parseTerm m ts) (x, rest) :=
    (Evp.and hfac (ev2_mulLoop_done x rest (hf.mono (by omega))).diag).step
      fun m ⟨h1, h2⟩ => by simp only [parseTerm, h1, h2]
  have hsum : Ev (fun m => parseSum m ts) (x, rest) :=
    (Evp.and hterm (ev2_addLoop_done x rest (hf.mono (by omega))).diag).step
      fun m ⟨h1, h2⟩ => by simp only [parseSum, h1, h2]
  have hcmp : Ev (fun m => parseCmp m ts) (x, rest) :=
    Evp.step hsum fun m h1 => by simp only [parseCmp, h1, cmpAct_none rest (hf.mono (by omega))]
  have hinv : Ev (fun m => parseInv m ts) (x, rest) :=
    Evp.step hcmp fun m h1 => by simp only [parseInv, hnot, h1]
  have hconj : Ev (fun m => parseConj m ts) (x, rest) :=
    (Evp.and hinv (ev2_andLoop_done [x] rest (hf.mono (by omega))).diag).step
      fun m ⟨h1, h2⟩ => by simp only [parseConj, h1, h2]
  exact (Evp.and hconj (ev2_orLoop_done [x] rest hf).diag).step
    fun m ⟨h1, h2⟩ => by simp only [parseExpr, h1, h2]

end Bql.Syn
