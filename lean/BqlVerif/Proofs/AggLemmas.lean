/-
  Grouping: the insertion-ordered store updated row by row equals "first-appearance keys,
  filter the group, fold it"; link to the implementation model's `aggStep` / `upsertGroup`;
  DISTINCT (`uniquify`) as first appearances.
-/
import BqlVerif.Model.Exec
set_option autoImplicit false
namespace Bql.Agg

variable {R K S : Type}

structure Eqv (e : K → K → Bool) : Prop where
  refl : ∀ a, e a a = true
  symm : ∀ a b, e a b = true → e b a = true
  trans : ∀ a b c, e a b = true → e b c = true → e a c = true

theorem beq_eqv {α : Type} [BEq α] [LawfulBEq α] : Eqv (fun a b : α => a == b) :=
  ⟨fun _ => beq_self_eq_true _, fun _ _ h => beq_iff_eq.mpr (beq_iff_eq.mp h).symm,
    fun _ _ _ h1 h2 => beq_iff_eq.mpr ((beq_iff_eq.mp h1).trans (beq_iff_eq.mp h2))⟩

/-- `store = aggregates[key]; update(store)` on an insertion-ordered dict -/
def upsert (e : K → K → Bool) (k : K) (f : S → S) (init : S) : List (K × S) → List (K × S)
  | [] => [(k, f init)]
  | (k', s) :: rest => if e k' k then (k', f s) :: rest else (k', s) :: upsert e k f init rest

def aggImpl (e : K → K → Bool) (key : R → K) (upd : R → S → S) (init : S) (rows : List R) : List (K × S) :=
  rows.foldl (fun st r => upsert e (key r) (upd r) init st) []

/-- keys in order of first appearance -/
def dedup (e : K → K → Bool) : List K → List K
  | [] => []
  | k :: ks => k :: (dedup e ks).filter (fun k' => !e k k')

def groupOf (e : K → K → Bool) (key : R → K) (k : K) (rows : List R) : List R :=
  rows.filter (fun r => e k (key r))

/-- the specification: one entry per distinct key in first-appearance order, holding the fold
    of the update over the group's rows in source order -/
def aggSpec (e : K → K → Bool) (key : R → K) (upd : R → S → S) (init : S) (rows : List R) : List (K × S) :=
  (dedup e (rows.map key)).map (fun k => (k, (groupOf e key k rows).foldl (fun s r => upd r s) init))

theorem any_filter_rel {e : K → K → Bool} (he : Eqv e) {a k : K} (hak : e a k = false) (l : List K) :
    (l.filter (fun k' => !e a k')).any (fun k' => e k' k) = l.any (fun k' => e k' k) := by
  rw [List.any_filter]
  refine List.any_congr rfl fun x => ?_
  cases hxk : e x k with
  | false => simp
  | true =>
    cases hax : e a x with
    | false => rfl
    | true => rw [he.trans _ _ _ hax hxk] at hak; cases hak

theorem dedup_any (e : K → K → Bool) (he : Eqv e) (ks : List K) (k : K) :
    (dedup e ks).any (fun a => e a k) = ks.any (fun a => e a k) := by
  induction ks with
  | nil => rfl
  | cons a as ih =>
    simp only [dedup, List.any_cons]
    cases hak : e a k with
    | true => rfl
    | false => rw [any_filter_rel he hak, ih]

theorem dedup_covers (e : K → K → Bool) (he : Eqv e) (ks : List K) (k : K) (hk : k ∈ ks) :
    ∃ a ∈ dedup e ks, e a k = true := by
  rw [← List.any_eq_true, dedup_any e he]; exact List.any_eq_true.mpr ⟨k, hk, he.refl k⟩

theorem dedup_snoc (e : K → K → Bool) (he : Eqv e) (ks : List K) (k : K) :
    dedup e (ks ++ [k]) = if (dedup e ks).any (fun k' => e k' k) then dedup e ks else dedup e ks ++ [k] := by
  induction ks with
  | nil => rfl
  | cons a as ih =>
    -- `dedup (a :: _)` filters the class of `a` out of the rest; `k` survives the filter unless it is in that class
    simp only [List.cons_append, dedup, ih, List.any_cons, apply_ite (List.filter _), List.filter_append]
    by_cases hak : e a k = true
    · have hf : [k].filter (fun k' => !e a k') = [] := by simp [hak]
      simp only [hak, Bool.true_or, if_true, hf, List.append_nil, ite_self]
    · have hf : [k].filter (fun k' => !e a k') = [k] := by simp [hak]
      simp only [any_filter_rel he (Bool.eq_false_iff.mpr hak), Bool.eq_false_iff.mpr hak, Bool.false_or, hf,
        apply_ite (List.cons a)]

theorem dedup_sublist (e : K → K → Bool) (ks : List K) : (dedup e ks).Sublist ks := by
  induction ks with
  | nil => exact .slnil
  | cons k ks ih => exact (List.filter_sublist.trans ih).cons_cons k

theorem dedup_pairwise (e : K → K → Bool) (ks : List K) :
    (dedup e ks).Pairwise (fun a b => e a b = false) := by
  induction ks with
  | nil => exact List.Pairwise.nil
  | cons k ks ih =>
    refine List.Pairwise.cons (fun b hb => ?_) (ih.sublist List.filter_sublist)
    simpa using (List.mem_filter.mp hb).2

theorem upsert_spec (e : K → K → Bool) (he : Eqv e) (k : K) (f : S → S) (init : S) (g : K → S) :
    ∀ (ks : List K), ks.Pairwise (fun a b => e a b = false) →
    upsert e k f init (ks.map (fun a => (a, g a)))
      = if ks.any (fun a => e a k) then ks.map (fun a => (a, if e a k then f (g a) else g a))
        else ks.map (fun a => (a, g a)) ++ [(k, f init)] := by
  intro ks hp
  induction ks with
  | nil => simp [upsert]
  | cons a as ih =>
    have hp' := List.pairwise_cons.mp hp
    cases hak : e a k with
    | true =>
      -- no later key is in the class of `k`: it would be in the class of `a`
      have hrest : ∀ b ∈ as, e b k = false := fun b hb =>
        Bool.eq_false_iff.mpr fun hbk =>
          Bool.eq_false_iff.mp (hp'.1 b hb) (he.trans _ _ _ hak (he.symm _ _ hbk))
      simp only [List.map_cons, upsert, hak, List.any_cons, Bool.true_or, if_true, List.cons.injEq, true_and]
      exact List.map_congr_left fun b hb => by simp [hrest b hb]
    | false =>
      simp only [List.map_cons, upsert, hak, Bool.false_eq_true, if_false, ih hp'.2, List.any_cons, Bool.false_or]
      split <;> simp

theorem rev_ind {α : Type} {P : List α → Prop} (hnil : P []) (hsnoc : ∀ l a, P l → P (l ++ [a])) :
    ∀ l, P l := by
  intro l
  have h : ∀ l : List α, P l.reverse := by
    intro l
    induction l with
    | nil => simpa using hnil
    | cons a l ih => simpa using hsnoc _ a ih
  simpa using h l.reverse

/-- the specification, one row later: the store loop's step -/
theorem aggSpec_snoc (e : K → K → Bool) (he : Eqv e) (key : R → K) (upd : R → S → S) (init : S)
    (rows : List R) (r : R) :
    aggSpec e key upd init (rows ++ [r]) = upsert e (key r) (upd r) init (aggSpec e key upd init rows) := by
  unfold aggSpec
  rw [upsert_spec e he (key r) (upd r) init _ _ (dedup_pairwise e _), List.map_append, List.map_cons, List.map_nil,
    dedup_snoc e he]
  -- both sides branch on whether `key r` has been seen; say it of the rows' own keys, which is what the second case needs
  simp only [dedup_any e he]
  split
  · refine List.map_congr_left fun a _ => ?_
    cases h : e a (key r) <;> simp [groupOf, List.filter_append, List.foldl_append, h]
  · -- `key r` is new: it is in no earlier group, and `r` is the only row of its own
    rename_i hnone
    have hnew : ∀ x ∈ rows, e (key x) (key r) = false := fun x hx =>
      Bool.eq_false_iff.mpr fun h => hnone (List.any_eq_true.mpr ⟨key x, List.mem_map_of_mem hx, h⟩)
    rw [List.map_append, List.map_cons, List.map_nil]
    congr 1
    · refine List.map_congr_left fun a ha => ?_
      obtain ⟨x, hx, rfl⟩ := List.mem_map.mp ((dedup_sublist e _).subset ha)
      simp [groupOf, List.filter_append, hnew x hx]
    · have : rows.filter (fun x => e (key r) (key x)) = [] :=
        List.filter_eq_nil_iff.mpr fun x hx h => Bool.eq_false_iff.mp (hnew x hx) (he.symm _ _ h)
      simp [groupOf, List.filter_append, he.refl, this]

theorem agg_refines (e : K → K → Bool) (he : Eqv e) (key : R → K) (upd : R → S → S) (init : S)
    (rows : List R) : aggImpl e key upd init rows = aggSpec e key upd init rows := by
  induction rows using rev_ind with
  | hnil => rfl
  | hsnoc rows r ih =>
    rw [aggSpec_snoc e he, ← ih, aggImpl, List.foldl_append]; rfl

/-! ### additivity, proved on the implementation side -/

theorem upsert_sum (e : K → K → Bool) (k : K) (n : Int) (st : List (K × Int)) :
    ((upsert e k (· + n) 0 st).map (·.2)).sum = (st.map (·.2)).sum + n := by
  induction st with
  | nil => simp [upsert]
  | cons p rest ih =>
    obtain ⟨k', s⟩ := p
    unfold upsert
    split
    · simp; omega
    · simp [ih]; omega

theorem aggImpl_sum (e : K → K → Bool) (key : R → K) (f : R → Int) (rows : List R) :
    ((aggImpl e key (fun r s => s + f r) 0 rows).map (·.2)).sum = (rows.map f).sum := by
  induction rows using rev_ind with
  | hnil => rfl
  | hsnoc rows r ih =>
    rw [aggImpl, List.foldl_append, List.foldl_cons, List.foldl_nil, upsert_sum, ← aggImpl, ih]
    simp

theorem foldl_add (f : R → Int) (l : List R) (init : Int) :
    l.foldl (fun s r => s + f r) init = init + (l.map f).sum := by
  induction l generalizing init with
  | nil => simp
  | cons a as ih => simp [ih]; omega

theorem group_sums_add_up (e : K → K → Bool) (he : Eqv e) (key : R → K) (f : R → Int) (rows : List R) :
    (((dedup e (rows.map key)).map (fun k => ((groupOf e key k rows).map f).sum))).sum = (rows.map f).sum := by
  rw [← aggImpl_sum e key f rows, agg_refines e he, aggSpec, List.map_map]
  congr 1
  exact List.map_congr_left fun k _ => by simp [foldl_add]

theorem foldlE_ok_foldl {α β : Type} {f : β → α → Except String β} {g : β → α → β}
    (hfg : ∀ b a b', f b a = .ok b' → b' = g b a) {l : List α} {b r : β}
    (h : foldlE f b l = .ok r) : r = l.foldl g b := by
  induction l generalizing b with
  | nil => cases h; rfl
  | cons a as ih =>
    simp only [foldlE] at h
    split at h
    · cases h
    · rename_i b' hf
      rw [List.foldl_cons, ← hfg b a b' hf]
      exact ih h

theorem foldlE_ok {α β : Type} (f : β → α → Except String β) (l : List α) (b r : β)
    (h : foldlE f b l = .ok r) :
    r = l.foldl (fun b a => match f b a with | .ok b' => b' | .error _ => b) b :=
  foldlE_ok_foldl (fun b a b' hf => by simp only [hf]) h

end Bql.Agg

namespace Bql
open Bql.Agg

/-- totalised per-row update of a store -/
def updT (nodes : List CExpr) (row : Row) (s : Store) : Store :=
  match updateStore row nodes s with
  | .ok s' => s'
  | .error _ => s

theorem upsertGroup_ok {nodes : List CExpr} {row key : Row} {acc res : List (Row × Store)}
    (h : upsertGroup nodes row key acc = .ok res) :
    res = upsert keyEq key (updT nodes row) (createStore nodes) acc := by
  induction acc generalizing res with
  | nil =>
    simp only [upsertGroup] at h
    split at h
    · cases h
    · rename_i s hu; cases h; simp only [upsert, updT, hu]
  | cons p rest ih =>
    obtain ⟨k, s⟩ := p
    simp only [upsertGroup] at h
    split at h
    · rename_i hk
      split at h
      · cases h
      · rename_i s' hu; cases h; simp only [upsert, hk, if_true, updT, hu]
    · rename_i hk
      split at h
      · cases h
      · rename_i rest' hr; cases h; simp only [upsert, hk, Bool.false_eq_true, if_false, ← ih hr]

theorem keyEq_eqv : Eqv keyEq := by
  constructor
  · intro a; simp [keyEq, pyEqList]
  · intro a b h; simp [keyEq, pyEqList] at *; exact h.symm
  · intro a b c h1 h2; simp [keyEq, pyEqList] at *; exact h1.trans h2

/-- the `seen` set filters out of the first appearances what came before -/
theorem uniquifyAux_eq (seen rows : List Row) :
    uniquifyAux seen rows = (dedup keyEq rows).filter (fun r => !seen.any (fun s => keyEq s r)) := by
  induction rows generalizing seen with
  | nil => rfl
  | cons r rs ih =>
    simp only [uniquifyAux, dedup, List.filter_cons, List.filter_filter]
    split
    · rename_i hr
      obtain ⟨s, hs, hsr⟩ := List.any_eq_true.mp hr
      simp only [hr, Bool.not_true, Bool.false_eq_true, if_false, ih]
      -- a row not seen before is not in the class of `r`, which has been seen
      refine List.filter_congr fun x _ => ?_
      cases hx : seen.any (fun s => keyEq s x) with
      | true => rfl
      | false =>
        have : keyEq r x = false := Bool.eq_false_iff.mpr fun hrx =>
          Bool.eq_false_iff.mp hx (List.any_eq_true.mpr ⟨s, hs, keyEq_eqv.trans _ _ _ hsr hrx⟩)
        simp [this]
    · rename_i hr
      simp only [hr, Bool.not_false, if_true, ih, List.any_cons, Bool.not_or, List.cons.injEq, true_and]
      exact List.filter_congr fun x _ => Bool.and_comm ..

/-- DISTINCT keeps the first appearances: `uniquify` is `dedup` by tuple equality -/
theorem uniquify_eq (rows : List Row) : uniquify rows = dedup keyEq rows := by
  simp [uniquify, uniquifyAux_eq]

theorem uniquify_sublist (rows : List Row) : (uniquify rows).Sublist rows := by
  rw [uniquify_eq]; exact dedup_sublist _ _

end Bql

namespace Bql.C02
open Bql.Agg

/-- totalised WHERE / key evaluation (used only on runs that did not raise) -/
def whT (w : Option CExpr) (row : Row) : Bool :=
  match whereTrue w row with | .ok b => b | .error _ => false
def keyT (ke : List CExpr) (row : Row) : Row :=
  match evalTargets [] row ke with | .ok k => k | .error _ => []

theorem aggStep_ok {w : Option CExpr} {ke nodes : List CExpr} {acc acc' : List (Row × Store)} {row : Row}
    (h : aggStep w ke nodes acc row = .ok acc') :
    acc' = if whT w row then upsert keyEq (keyT ke row) (updT nodes row) (createStore nodes) acc else acc := by
  unfold aggStep at h
  split at h
  · cases h
  · rename_i hw; cases h; simp [whT, hw]
  · rename_i hw
    split at h
    · cases h
    · rename_i key hk
      split at h
      · simp [whT, hw, keyT, hk, upsertGroup_ok h]
      · cases h

theorem aggFold_ok {w : Option CExpr} {ke nodes : List CExpr} {tbl : List Row} {acc res : List (Row × Store)}
    (h : foldlE (aggStep w ke nodes) acc tbl = .ok res) :
    res = (tbl.filter (whT w)).foldl
      (fun st r => upsert keyEq (keyT ke r) (updT nodes r) (createStore nodes) st) acc := by
  rw [List.foldl_filter]
  exact foldlE_ok_foldl (fun _ _ _ => aggStep_ok) h

end Bql.C02
