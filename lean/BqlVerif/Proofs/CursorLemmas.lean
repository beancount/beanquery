/-
  The cursor between two executes: `Inv` ties its state to the result of the last execute, and every
  fetch hands over a prefix of the undelivered rows (`fetch_split`), so fetches compose (`FetchOk.trans`).
-/
import BqlVerif.Model.Cursor
set_option autoImplicit false
namespace Bql.C10

/-- Invariant linking the cursor to the result of the last execute: what has been delivered
    so far followed by what remains is the result; `pos` counts the delivered rows;
    `rowcount` is the size of the result. -/
def Inv (result : List CRow) (c : Cursor) : Prop :=
  c.rows = some (result.drop c.pos) ∧ c.pos ≤ result.length ∧ c.rowcount = result.length

theorem execute_inv (c : Cursor) (d : List (String × String)) (res : List CRow) :
    Inv res (c.step (.execute d res)).1 := by
  simp [Cursor.step, Inv]

/-- one fetch step: the rows returned are exactly the next rows of the result, the invariant
    is kept, and the position advances by the number of rows returned -/
def FetchOk (result : List CRow) (c c' : Cursor) (out : List CRow) : Prop :=
  Inv result c' ∧ out = (result.drop c.pos).take out.length ∧ c'.pos = c.pos + out.length

/-- what every fetch does: it hands over a prefix `out` of the undelivered rows and keeps the rest -/
theorem fetch_split {result : List CRow} {c c' : Cursor} (out rest : List CRow) (h : Inv result c)
    (hsplit : result.drop c.pos = out ++ rest) (hrows : c'.rows = some rest)
    (hpos : c'.pos = c.pos + out.length) (hrc : c'.rowcount = c.rowcount) : FetchOk result c c' out := by
  obtain ⟨_, hp, hc⟩ := h
  have hlen : out.length + rest.length = result.length - c.pos := by
    rw [← List.length_append, ← hsplit, List.length_drop]
  refine ⟨⟨?_, by omega, by rw [hrc, hc]⟩, ?_, hpos⟩
  · rw [hrows, hpos, ← List.drop_drop, hsplit, List.drop_left]
  · rw [hsplit, List.take_left]

theorem FetchOk.refl {result : List CRow} {c : Cursor} (h : Inv result c) : FetchOk result c c [] :=
  fetch_split [] _ h rfl h.1 rfl rfl

theorem fetchone_nil {result : List CRow} {c : Cursor} (h : Inv result c) (hd : result.drop c.pos = []) :
    c.fetchone = (c, .none) := by
  simp [Cursor.fetchone, h.1, hd]

theorem fetchone_cons {result : List CRow} {c : Cursor} {r : CRow} {rest : List CRow} (h : Inv result c)
    (hd : result.drop c.pos = r :: rest) :
    c.fetchone = ({ c with rows := some rest, pos := c.pos + 1 }, .row r) := by
  simp [Cursor.fetchone, h.1, hd]

theorem fetchone_ok (result : List CRow) (c : Cursor) (h : Inv result c) :
    FetchOk result c c.fetchone.1 c.fetchone.2.delivered := by
  cases hd : result.drop c.pos with
  | nil => rw [fetchone_nil h hd]; exact .refl h
  | cons r rest => rw [fetchone_cons h hd]; exact fetch_split [r] rest h hd rfl rfl rfl

theorem fetchmany_ok (result : List CRow) (c : Cursor) (size : Option Nat) (h : Inv result c) :
    FetchOk result c (c.fetchmany size).1 (c.fetchmany size).2.delivered := by
  unfold Cursor.fetchmany
  rw [h.1]
  exact fetch_split _ _ h (List.take_append_drop ..).symm rfl rfl rfl

theorem fetchall_ok (result : List CRow) (c : Cursor) (h : Inv result c) :
    FetchOk result c c.fetchall.1 c.fetchall.2.delivered := by
  unfold Cursor.fetchall
  rw [h.1]
  exact fetch_split _ [] h (List.append_nil _).symm rfl rfl rfl

theorem FetchOk.trans {result : List CRow} {c c' c'' : Cursor} {o1 o2 : List CRow}
    (h1 : FetchOk result c c' o1) (h2 : FetchOk result c' c'' o2) : FetchOk result c c'' (o1 ++ o2) := by
  obtain ⟨_, hout1, hpos1⟩ := h1
  obtain ⟨hinv, hout2, hpos2⟩ := h2
  refine ⟨hinv, ?_, by rw [hpos2, hpos1, List.length_append, Nat.add_assoc]⟩
  rw [List.length_append, List.take_add, List.drop_drop, ← hout1, ← hpos1, ← hout2]

theorem iterNext_ok (result : List CRow) (n : Nat) (c : Cursor) (h : Inv result c) :
    FetchOk result c (c.iterNext n).1 (c.iterNext n).2 := by
  induction n generalizing c with
  | zero => exact .refl h
  | succ n ih =>
    have h1 := fetchone_ok result c h
    unfold Cursor.iterNext
    cases hd : result.drop c.pos with
    | nil => rw [fetchone_nil h hd] at h1 ⊢; exact h1
    | cons r rest => rw [fetchone_cons h hd] at h1 ⊢; exact h1.trans (ih _ h1.1)

theorem FetchOk.take_append {result : List CRow} {c c' : Cursor} {out : List CRow} (h : FetchOk result c c' out) :
    result.take c.pos ++ out = result.take c'.pos := by
  obtain ⟨_, hout, hpos⟩ := h
  rw [hpos, List.take_add, ← hout]

theorem step_ok (result : List CRow) (c : Cursor) (op : CursorOp) (h : Inv result c)
    (hop : ∀ d r, op ≠ .execute d r) :
    FetchOk result c (c.step op).1 (c.step op).2.delivered := by
  cases op with
  | execute d r => exact absurd rfl (hop d r)
  | fetchone => exact fetchone_ok result c h
  | fetchmany size => exact fetchmany_ok result c size h
  | fetchall => exact fetchall_ok result c h
  | iterNext n => exact iterNext_ok result n c h
  | setArraysize n => exact fetch_split [] _ h rfl h.1 rfl rfl

def isExecute : CursorOp → Bool | .execute _ _ => true | _ => false

/-- a sequence of fetches is one fetch of everything they deliver -/
theorem run_ok (result : List CRow) (ops : List CursorOp) (c : Cursor) (h : Inv result c)
    (hops : ∀ op ∈ ops, isExecute op = false) :
    FetchOk result c (c.run ops).1 ((c.run ops).2.flatMap CursorOut.delivered) := by
  induction ops generalizing c with
  | nil => exact .refl h
  | cons op ops ih =>
    have h1 := step_ok result c op h fun d r heq => by
      have := hops op (List.mem_cons_self ..)
      rw [heq] at this; cases this
    exact h1.trans (ih _ h1.1 fun x hx => hops x (List.mem_cons_of_mem _ hx))

theorem run_fst_cons (c : Cursor) (op : CursorOp) (ops : List CursorOp) : (c.run (op :: ops)).1 = ((c.step op).1.run ops).1 := rfl

theorem getElem?_stepAt (cs : List Cursor) (i j : Nat) (op : CursorOp) :
    (stepAt cs i op)[j]? = if i = j then cs[j]?.map (fun c => (c.step op).1) else cs[j]? := by
  unfold stepAt
  split
  · rename_i c hc
    rw [List.getElem?_set]
    split
    · subst i; rw [hc, if_pos (List.getElem?_eq_some_iff.mp hc).1]; rfl
    · rfl
  · rename_i hc
    split
    · subst i; rw [hc]; rfl
    · rfl

theorem getElem?_runMulti (ops : List (Nat × CursorOp)) (cs : List Cursor) (j : Nat) :
    (runMulti cs ops)[j]? = cs[j]?.map fun c => (c.run ((ops.filter (fun p => p.1 == j)).map (·.2))).1 := by
  induction ops generalizing cs with
  | nil => simp [runMulti, Cursor.run]
  | cons p rest ih =>
    obtain ⟨i, op⟩ := p
    rw [runMulti, ih, getElem?_stepAt, List.filter_cons]
    by_cases hij : i = j
    · rw [if_pos hij, if_pos (beq_iff_eq.mpr hij), Option.map_map]; rfl
    · rw [if_neg hij, if_neg (mt beq_iff_eq.mp hij)]

end Bql.C10
