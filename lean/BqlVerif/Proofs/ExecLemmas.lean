/-
  What `execSelect` does after the row loop: post-processing returns the rows of the pipeline (ORDER BY, projection,
  DISTINCT, LIMIT), which only drops rows of the projection, and a query that returns gives its description and
  those rows.
-/
import BqlVerif.Proofs.AggLemmas
set_option autoImplicit false
namespace Bql

theorem postProcess_ok {q : CQuery} {rows out : List Row} (h : postProcess q rows = .ok out) : out = finishRows q rows := by
  unfold postProcess at h
  split at h
  · cases h
  · split at h <;> cases h
    rfl

/-- DISTINCT and LIMIT only drop rows -/
theorem finishRows_sublist (q : CQuery) (rows : List Row) : (finishRows q rows).Sublist (projectedRows q rows) := by
  have hd : (if q.distinct then uniquify (projectedRows q rows) else projectedRows q rows).Sublist (projectedRows q rows) := by
    split
    · exact uniquify_sublist _
    · exact .refl _
  unfold finishRows
  cases q.limit with
  | none => exact hd
  | some n => exact (List.take_sublist _ _).trans hd

/-- a finished row is the projection of an ordered row to the visible indexes -/
theorem mem_finishRows {q : CQuery} {rows : List Row} {r : Row} (hr : r ∈ finishRows q rows) :
    ∃ full ∈ orderedRows q rows, r = project (resultIndexes q.targets) full := by
  obtain ⟨x, hx, rfl⟩ := List.mem_map.mp ((finishRows_sublist q rows).subset hr)
  exact ⟨x, hx, rfl⟩

/-- one index for each described column, when no visible name is empty (the executor drops such targets) -/
theorem visibleIdx_length (ts : List CTarget) (i : Nat) (hne : ∀ t ∈ ts, t.name ≠ some "") :
    (visibleIdx ts i).length = (ts.filterMap (fun t => t.name.map (fun n => (n, t.expr.ty)))).length := by
  induction ts generalizing i with
  | nil => rfl
  | cons t rest ih =>
    have hrest := ih (i + 1) (fun x hx => hne x (List.mem_cons_of_mem _ hx))
    have hn := hne t (List.mem_cons_self ..)
    unfold visibleIdx
    cases hname : t.name with
    | none => simp [hname, hrest]
    | some n =>
      have : (n != "") = true := by simpa [hname] using hn
      simp [hname, this, hrest]

theorem execSelect_ok {cq : CQuery} {desc : List (String × Ty)} {rows : List Row} (he : execSelect cq = .ok (desc, rows)) :
    desc = cq.description ∧ ∃ rows0, rows = finishRows cq rows0 := by
  unfold execSelect at he
  split at he
  · cases he
  · split at he <;> cases he
    exact ⟨rfl, _, postProcess_ok ‹_›⟩

end Bql
