/-
  Schedules of threads: a run that threads a shared state through simulates the run over private states alone as long
  as an invariant of the shared state makes every private effect independent of it (`runShared_benign`); a memo table
  of a pure function keeps such an invariant under any eviction.
-/
import BqlVerif.Model.Threads
set_option autoImplicit false
namespace Bql.C20

variable {P : Type}

theorem set_same (st : Priv P) (t : Nat) (v : P) : (st.set t v) t = v := by simp [Priv.set]
theorem set_other {st : Priv P} {t u : Nat} {v : P} (h : u ≠ t) : (st.set t v) u = st u := by simp [Priv.set, h]

variable {C : Type}

/-- threads that also read and write a state SHARED by all of them (module-level caches, registries) -/
def runShared (step : Nat → P → C → P × C) : Priv P → C → List Nat → Priv P × C
  | st, c, [] => (st, c)
  | st, c, t :: ts => runShared step (st.set t (step t (st t) c).1) (step t (st t) c).2 ts

theorem runShared_benign (step : Nat → P → C → P × C) (pstep : Nat → P → P) (I : C → Prop)
    (hpriv : ∀ t p c, I c → (step t p c).1 = pstep t p) (hinv : ∀ t p c, I c → I (step t p c).2)
    (sched : List Nat) (st : Priv P) (c : C) (hc : I c) :
    (runShared step st c sched).1 = runSchedule pstep st sched ∧ I (runShared step st c sched).2 := by
  induction sched generalizing st c with
  | nil => exact ⟨rfl, hc⟩
  | cons u us ih =>
    simp only [runShared, runSchedule, hpriv u (st u) c hc]
    exact ih _ _ (hinv u (st u) c hc)

variable {K V : Type} [DecidableEq K]

def memoStep (f : K → V) (evict : List (K × V) → List (K × V)) (k : K) (cache : List (K × V)) : V × List (K × V) :=
  match cache.find? (fun p => p.1 == k) with
  | some p => (p.2, evict cache)
  | none => (f k, evict ((k, f k) :: cache))

def MemoInv (f : K → V) (cache : List (K × V)) : Prop := ∀ p ∈ cache, p.2 = f p.1

theorem memoStep_value (f : K → V) (evict : List (K × V) → List (K × V)) (k : K) (cache : List (K × V))
    (h : MemoInv f cache) : (memoStep f evict k cache).1 = f k := by
  unfold memoStep
  cases hf : cache.find? (fun p => p.1 == k) with
  | none => rfl
  | some p =>
    have hm := List.mem_of_find?_eq_some hf
    have hk := List.find?_some hf
    simp only [beq_iff_eq] at hk
    simp [h p hm, hk]

theorem memoStep_inv (f : K → V) (evict : List (K × V) → List (K × V)) (hev : ∀ l, ∀ p ∈ evict l, p ∈ l)
    (k : K) (cache : List (K × V)) (h : MemoInv f cache) : MemoInv f (memoStep f evict k cache).2 := by
  unfold memoStep
  cases hf : cache.find? (fun p => p.1 == k) with
  | none =>
    intro p hp
    rcases List.mem_cons.mp (hev _ p hp) with rfl | hp'
    · rfl
    · exact h p hp'
  | some q =>
    intro p hp
    exact h p (hev _ p hp)

end Bql.C20
