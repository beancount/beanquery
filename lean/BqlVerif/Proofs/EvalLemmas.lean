/-
  `eval` on the NULL-strict nodes once their operands are evaluated; the non-aggregate row loop as a map with
  early exit (`mapE`) of `specRow`, then `filterMap`.
-/
import BqlVerif.Model.Exec
set_option autoImplicit false
namespace Bql

theorem Value.eq_null_of_isNull {v : Value} (h : v.isNull = true) : v = .null := by
  unfold Value.isNull at h
  split at h
  · rfl
  · cases h

/-- `/` and `%` have no special operand classes: they are the numeric operation -/
theorem semBin_div (a b : Value) : semBin .div a b = numBin .div a b := by
  simp [semBin]

theorem semBin_mod (a b : Value) : semBin .mod a b = numBin .mod a b := by
  simp [semBin]

theorem numBin_zero_dec {op : BinOp} (hop : op = .div ∨ op = .mod) {x : Value} {a z : Dec} (hx : x.num? = some a)
    (hz : z.coef = 0) : numBin op x (.dec z) = .ok .null := by
  unfold numBin
  split
  · rename_i _ h; cases h
  · rw [hx]; rcases hop with rfl | rfl <;> simp [Value.num?, Dec.isZero, hz]

theorem eval_unop_ok {env : AggEnv} {row : Row} {e : CExpr} {v : Value} (op : UnOp) (safe : Bool) (ty : Ty)
    (h : eval env row e = .ok v) :
    eval env row (.unop op safe e ty) = if safe && v.isNull then .ok .null else semUn op v := by
  simp only [eval, h]

theorem eval_binop_ok {env : AggEnv} {row : Row} {l r : CExpr} {a b : Value} (op : BinOp) (ty : Ty)
    (hl : eval env row l = .ok a) (hr : eval env row r = .ok b) :
    eval env row (.binop op l r ty) = if a.isNull || b.isNull then .ok .null else semBin op a b := by
  simp only [eval, hl, hr]
  cases a.isNull <;> cases b.isNull <;> rfl

theorem eval_between_ok {env : AggEnv} {row : Row} {e lo hi : CExpr} {a b c : Value}
    (he : eval env row e = .ok a) (hlo : eval env row lo = .ok b) (hhi : eval env row hi = .ok c) :
    eval env row (.between e lo hi) =
      if a.isNull || b.isNull || c.isNull then .ok .null else semBetween a b c := by
  simp only [eval, he, hlo, hhi]
  cases a.isNull <;> cases b.isNull <;> cases c.isNull <;> rfl

/-- result of a row under the specification: excluded (`none`) or its target values -/
def specRow (w : Option CExpr) (ts : List CExpr) (row : Row) : Except String (Option Row) :=
  match whereTrue w row with
  | .error x => .error x
  | .ok false => .ok none
  | .ok true => match evalTargets [] row ts with
    | .error x => .error x
    | .ok vs => .ok (some vs)

def mapE {α β} (f : α → Except String β) : List α → Except String (List β)
  | [] => .ok []
  | a :: as => match f a with
    | .error x => .error x
    | .ok b => match mapE f as with
      | .error x => .error x
      | .ok bs => .ok (b :: bs)

theorem foldlE_nonAgg (w : Option CExpr) (ts : List CExpr) (tbl : List Row) (acc : List Row) :
    foldlE (nonAggStep w ts) acc tbl =
      (match mapE (specRow w ts) tbl with
       | .error x => .error x
       | .ok rs => .ok (acc ++ rs.filterMap id)) := by
  induction tbl generalizing acc with
  | nil => simp [foldlE, mapE]
  | cons r rs ih =>
    simp only [foldlE, mapE, nonAggStep, specRow]
    cases whereTrue w r with
    | error x => rfl
    | ok b =>
      cases b with
      | false => simp only [ih]; cases mapE (specRow w ts) rs <;> simp
      | true =>
        cases evalTargets [] r ts with
        | error x => rfl
        | ok vs => simp only [ih]; cases mapE (specRow w ts) rs <;> simp

theorem mapE_ok_of_forall {α β} (f : α → Except String β) (g : α → β) (l : List α)
    (h : ∀ a ∈ l, f a = .ok (g a)) : mapE f l = .ok (l.map g) := by
  induction l with
  | nil => rfl
  | cons a as ih =>
    simp [mapE, h a (List.mem_cons_self ..), ih fun x hx => h x (List.mem_cons_of_mem _ hx)]

theorem selectNonAgg_eq (q : CQuery) :
    selectNonAgg q =
      (match mapE (specRow q.where_ (q.targets.map (·.expr))) q.table with
       | .error x => .error x
       | .ok rs => .ok (rs.filterMap id)) := by
  rw [selectNonAgg, foldlE_nonAgg]
  cases mapE (specRow q.where_ (q.targets.map (·.expr))) q.table <;> simp

theorem selectNonAgg_filter_map (q : CQuery) (wh : Row → Bool) (tg : Row → Row)
    (hw : ∀ r ∈ q.table, whereTrue q.where_ r = .ok (wh r))
    (ht : ∀ r ∈ q.table, wh r = true → evalTargets [] r (q.targets.map (·.expr)) = .ok (tg r)) :
    selectNonAgg q = .ok ((q.table.filter wh).map tg) := by
  rw [selectNonAgg_eq, mapE_ok_of_forall _ (fun r => if wh r then some (tg r) else none)]
  · dsimp only
    rw [List.filterMap_map, ← List.filterMap_eq_map', List.filterMap_filter]; rfl
  · intro r hr
    simp only [specRow, hw r hr]
    cases hb : wh r with
    | false => rfl
    | true => simp only [ht r hr hb, if_true]

end Bql
