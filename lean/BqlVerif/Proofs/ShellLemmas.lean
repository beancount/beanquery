/-
  The settings store of the shell: `get?` after `set` as one equation, and what a valid `.set NAME VALUE` does.
-/
import BqlVerif.Model.Shell
set_option autoImplicit false
namespace Bql.C19

theorem get?_set (st : Settings) (n m : String) (v : SVal) :
    (st.set n v).get? m = if m = n then (st.get? n).map (fun _ => v) else st.get? m := by
  induction st with
  | nil => simp [Settings.set, Settings.get?]
  | cons p rest ih =>
    obtain ⟨k, x⟩ := p
    by_cases hk : k = n
    · subst hk
      by_cases hm : m = k
      · simp [Settings.set, Settings.get?, hm]
      · simp [Settings.set, Settings.get?, hm, Ne.symm hm]
    · by_cases hm : k = m
      · subst hm; simp [Settings.set, Settings.get?, hk]
      · simp [Settings.set, Settings.get?, hk, hm, ih]

theorem doSet_valid (st : Settings) (name value : String) (cur v : SVal)
    (hc : st.get? name = some cur) (hp : parseFor name cur value = some v) :
    doSet st [name, value] = { settings := st.set name v } := by
  simp [doSet, hc, hp]

end Bql.C19
