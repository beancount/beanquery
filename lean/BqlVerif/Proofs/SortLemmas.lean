/-
  Stable insertion sort: a sorted permutation that keeps the order of what it cannot separate;
  two stable passes = one pass by the lexicographic order.
-/
set_option autoImplicit false
namespace Bql.Sort

variable {α : Type}

/-- insert `x` before the first `y` with `le x y` -/
def ins (le : α → α → Bool) (x : α) : List α → List α
  | [] => [x]
  | y :: ys => if le x y then x :: y :: ys else y :: ins le x ys

def ssort (le : α → α → Bool) (l : List α) : List α := l.foldr (ins le) []

/-- the non-strict order derived from a strict comparator -/
def leOf (lt : α → α → Bool) (a b : α) : Bool := !lt b a

/-- lexicographic combination: major `le1`, minor `le2` -/
def lex (le1 le2 : α → α → Bool) (a b : α) : Bool :=
  if le1 a b && le1 b a then le2 a b else le1 a b

structure TotalPre (le : α → α → Bool) : Prop where
  total : ∀ a b, le a b = true ∨ le b a = true
  trans : ∀ a b c, le a b = true → le b c = true → le a c = true

def Sorted (le : α → α → Bool) : List α → Prop
  | [] => True
  | x :: xs => (∀ y ∈ xs, le x y = true) ∧ Sorted le xs

theorem Sorted.pairwise {le : α → α → Bool} : ∀ l : List α, Sorted le l → l.Pairwise (fun a b => le a b = true)
  | [], _ => .nil
  | _ :: xs, h => .cons h.1 (Sorted.pairwise xs h.2)

theorem TotalPre.of_not {le : α → α → Bool} (h : TotalPre le) {a b : α} (hab : ¬ le a b = true) : le b a = true :=
  (h.total a b).resolve_left hab

theorem ssort_cons (le : α → α → Bool) (x : α) (l : List α) :
    ssort le (x :: l) = ins le x (ssort le l) := rfl

theorem perm_ins (le : α → α → Bool) (x : α) (l : List α) : (ins le x l).Perm (x :: l) := by
  induction l with
  | nil => simp [ins]
  | cons y ys ih =>
    unfold ins; split
    · exact List.Perm.refl _
    · exact (List.Perm.cons y ih).trans (List.Perm.swap x y ys)

theorem perm_ssort (le : α → α → Bool) (l : List α) : (ssort le l).Perm l := by
  induction l with
  | nil => exact List.Perm.refl _
  | cons x xs ih => exact (perm_ins le x _).trans (List.Perm.cons x ih)

theorem mem_ins (le : α → α → Bool) (x : α) (l : List α) (z : α) :
    z ∈ ins le x l ↔ z = x ∨ z ∈ l := by
  rw [(perm_ins le x l).mem_iff, List.mem_cons]

theorem mem_ssort (le : α → α → Bool) (l : List α) (z : α) : z ∈ ssort le l ↔ z ∈ l :=
  (perm_ssort le l).mem_iff

theorem sorted_ins {le : α → α → Bool} (h : TotalPre le) (x : α) (l : List α)
    (hs : Sorted le l) : Sorted le (ins le x l) := by
  induction l with
  | nil => simp [ins, Sorted]
  | cons y ys ih =>
    unfold ins; split
    · rename_i hxy
      refine ⟨?_, hs⟩
      intro z hz
      rcases List.mem_cons.mp hz with rfl | hz
      · exact hxy
      · exact h.trans _ _ _ hxy (hs.1 z hz)
    · rename_i hxy
      refine ⟨?_, ih hs.2⟩
      intro z hz
      rcases (mem_ins le x ys z).mp hz with rfl | hz
      · exact h.of_not hxy
      · exact hs.1 z hz

theorem ins_congr {le le' : α → α → Bool} (x : α) (l : List α)
    (h : ∀ z ∈ l, le x z = le' x z) : ins le x l = ins le' x l := by
  induction l with
  | nil => rfl
  | cons y ys ih =>
    have hy := h y (List.mem_cons_self ..)
    have ih' := ih (fun z hz => h z (List.mem_cons_of_mem _ hz))
    simp [ins, hy, ih']

theorem lex_eq_of_le2 {le1 le2 : α → α → Bool} {x z : α} (h : le2 x z = true) :
    lex le1 le2 x z = le1 x z := by
  unfold lex; split
  · rename_i h1; simp at h1; simp [h, h1.1]
  · rfl

theorem lex_le1 {le1 le2 : α → α → Bool} {a b : α} (h : lex le1 le2 a b = true) : le1 a b = true := by
  unfold lex at h; split at h
  · rename_i hc; simp at hc; exact hc.1
  · exact h

theorem lex_total {le1 le2 : α → α → Bool} (h1 : TotalPre le1) (h2 : TotalPre le2) :
    TotalPre (lex le1 le2) := by
  constructor
  · intro a b
    -- on a tie of the major order the minor one decides both ways, otherwise the major one does
    unfold lex
    rw [Bool.and_comm (le1 b a)]
    split
    · exact h2.total a b
    · exact h1.total a b
  · intro a b c hab hbc
    have ab := lex_le1 hab
    have bc := lex_le1 hbc
    have ac := h1.trans _ _ _ ab bc
    cases ca : le1 c a with
    | false => simp [lex, ac, ca]
    | true =>
      -- a, b, c are equivalent under `le1`, so the minor order decides every pair
      have ba := h1.trans _ _ _ bc ca
      have cb := h1.trans _ _ _ ca ab
      simp only [lex, ab, ba, bc, cb, ac, ca, Bool.and_self, if_true] at hab hbc ⊢
      exact h2.trans _ _ _ hab hbc

/-- inserting two elements that the order separates commutes -/
theorem ins_comm {R : α → α → Bool} (h : TotalPre R) (x y : α) (hne : ¬ (R x y = true ∧ R y x = true))
    (u : List α) : ins R y (ins R x u) = ins R x (ins R y u) := by
  have hxy : R x y = !R y x := by
    cases hyx : R y x with
    | false => exact h.of_not (by simp [hyx])
    | true => cases hxy : R x y with
      | false => rfl
      | true => exact absurd ⟨hxy, hyx⟩ hne
  induction u with
  | nil => cases hyx : R y x <;> simp [ins, hxy, hyx]
  | cons z zs ih =>
    by_cases hxz : R x z = true <;> by_cases hyz : R y z = true
    · cases hyx : R y x <;> simp [ins, hxz, hyz, hxy, hyx]
    · have hyx : ¬ R y x = true := fun hyx => hyz (h.trans _ _ _ hyx hxz)
      simp [ins, hxz, hyz, hyx]
    · have hxy : ¬ R x y = true := fun hxy => hxz (h.trans _ _ _ hxy hyz)
      simp [ins, hxz, hyz, hxy]
    · simp [ins, hxz, hyz, ih]

theorem ssort_ins {le1 le2 : α → α → Bool} (h1 : TotalPre le1) (h2 : TotalPre le2)
    (x : α) (s : List α) (hs : Sorted le2 s) :
    ssort le1 (ins le2 x s) = ins (lex le1 le2) x (ssort le1 s) := by
  induction s with
  | nil => rfl
  | cons y ys ih =>
    -- on elements that follow in the `le2`-sorted list, `lex le1 le2` and `le1` agree
    have agree : ∀ {w : α} {l : List α}, (∀ z ∈ l, le2 w z = true) → ins le1 w l = ins (lex le1 le2) w l :=
      fun hw => ins_congr _ _ fun z hz => (lex_eq_of_le2 (hw z hz)).symm
    have hys : ∀ z ∈ ssort le1 ys, le2 y z = true := fun z hz => hs.1 z ((mem_ssort le1 _ z).mp hz)
    by_cases hxy : le2 x y = true
    · rw [ins, if_pos hxy, ssort_cons]
      refine agree fun z hz => ?_
      rcases List.mem_cons.mp ((mem_ssort le1 _ z).mp hz) with rfl | hz'
      · exact hxy
      · exact h2.trans _ _ _ hxy (hs.1 z hz')
    · have hyx : le2 y x = true := h2.of_not hxy
      rw [ins, if_neg hxy, ssort_cons, ih hs.2, ssort_cons, agree hys,
        agree (w := y) fun z hz => ((mem_ins _ _ _ z).mp hz).elim (fun e => e ▸ hyx) (hys z)]
      apply ins_comm (lex_total h1 h2)
      intro ⟨hl1, hl2⟩
      simp only [lex, lex_le1 hl1, lex_le1 hl2, Bool.and_self, if_true] at hl1
      exact hxy hl1

theorem sorted_ssort {le : α → α → Bool} (h : TotalPre le) (l : List α) : Sorted le (ssort le l) := by
  induction l with
  | nil => simp [ssort, Sorted]
  | cons x xs ih => rw [ssort_cons]; exact sorted_ins h x _ ih

theorem two_pass {le1 le2 : α → α → Bool} (h1 : TotalPre le1) (h2 : TotalPre le2) (l : List α) :
    ssort le1 (ssort le2 l) = ssort (lex le1 le2) l := by
  induction l with
  | nil => rfl
  | cons x xs ih =>
    rw [ssort_cons, ssort_ins h1 h2 x _ (sorted_ssort h2 xs), ih, ssort_cons]

theorem ssort_congr {le le' : α → α → Bool} (l : List α) (h : ∀ a b, le a b = le' a b) :
    ssort le l = ssort le' l := by
  have : le = le' := funext fun a => funext fun b => h a b
  rw [this]

theorem ssort_trivial (l : List α) : ssort (fun _ _ => true) l = l := by
  induction l with
  | nil => rfl
  | cons x xs ih =>
    rw [ssort_cons, ih]
    cases xs <;> simp [ins]

/-- as far as a filter `p` can see, `ins` puts `x` in front, provided `x` is `≤` the members of `p` -/
theorem filter_ins {le : α → α → Bool} (p : α → Bool) (x : α) (l : List α)
    (heq : p x = true → ∀ z ∈ l, p z = true → le x z = true) :
    (ins le x l).filter p = (x :: l).filter p := by
  induction l with
  | nil => rfl
  | cons y ys ih =>
    unfold ins; split
    · rfl
    · rename_i hxy
      rw [List.filter_cons, ih (fun hx z hz => heq hx z (List.mem_cons_of_mem _ hz))]
      cases hx : p x
      · simp [List.filter_cons, hx]
      · have hpy : p y = false := Bool.eq_false_iff.mpr fun hpy => hxy (heq hx y (List.mem_cons_self ..) hpy)
        simp [hx, hpy]

/-- stability: elements that the order cannot separate keep their input order.  Stated as:
    filtering the sorted list by any predicate `p` whose members are pairwise equivalent
    gives the input filtered by `p`. -/
theorem ssort_stable {le : α → α → Bool} (p : α → Bool) (l : List α)
    (heq : ∀ a ∈ l, ∀ b ∈ l, p a = true → p b = true → le a b = true) :
    (ssort le l).filter p = l.filter p := by
  induction l with
  | nil => rfl
  | cons x xs ih =>
    rw [ssort_cons, filter_ins, List.filter_cons, List.filter_cons,
      ih (fun a ha b hb => heq a (List.mem_cons_of_mem _ ha) b (List.mem_cons_of_mem _ hb))]
    intro hx z hz
    exact heq x (List.mem_cons_self ..) z (List.mem_cons_of_mem _ ((mem_ssort le xs z).mp hz)) hx

end Bql.Sort
