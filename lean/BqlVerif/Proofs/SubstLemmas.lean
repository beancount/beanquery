/-
  Lemmas for C09: writing parameter values into a statement as literals does not change what it compiles to.
-/
import BqlVerif.Proofs.CompileLemmas
set_option autoImplicit false
namespace Bql

mutual
def Expr.subst (ctx : Ctx) : Expr → Expr
  | .placeholder n p => match bindParam ctx n p with | .ok v => .const v | .error _ => .placeholder n p
  | .col n => .col n
  | .const v => .const v
  | .star => .star
  | .func f as => .func f (Expr.substL ctx as)
  | .attr e n => .attr (e.subst ctx) n
  | .subscript e k => .subscript (e.subst ctx) k
  | .unop op e => .unop op (e.subst ctx)
  | .binop op l r => .binop op (l.subst ctx) (r.subst ctx)
  | .between a b c => .between (a.subst ctx) (b.subst ctx) (c.subst ctx)
  | .and es => .and (Expr.substL ctx es)
  | .or es => .or (Expr.substL ctx es)
  | .sub q => .sub (q.subst ctx)
def Expr.substL (ctx : Ctx) : List Expr → List Expr
  | [] => []
  | e :: es => e.subst ctx :: Expr.substL ctx es
def Target.subst (ctx : Ctx) : Target → Target
  | .mk e a t => .mk (e.subst ctx) a t
def Target.substL (ctx : Ctx) : List Target → List Target
  | [] => []
  | t :: ts => t.subst ctx :: Target.substL ctx ts
def KeyRef.subst (ctx : Ctx) : KeyRef → KeyRef
  | .idx n => .idx n
  | .expr e => .expr (e.subst ctx)
def KeyRef.substL (ctx : Ctx) : List KeyRef → List KeyRef
  | [] => []
  | k :: ks => k.subst ctx :: KeyRef.substL ctx ks
def OrderKeys.substL (ctx : Ctx) : List (KeyRef × Bool) → List (KeyRef × Bool)
  | [] => []
  | (k, d) :: ks => (k.subst ctx, d) :: OrderKeys.substL ctx ks
def FromC.subst (ctx : Ctx) : FromC → FromC
  | .none => .none
  | .table n => .table n
  | .sub q => .sub (q.subst ctx)
  | .from e o c cl => .from (match e with | some e => some (e.subst ctx) | none => none) o c cl
def Select.subst (ctx : Ctx) : Select → Select
  | .mk ts f w g hv o p l d =>
    .mk (match ts with | some ts => some (Target.substL ctx ts) | none => none) (f.subst ctx)
      (match w with | some e => some (e.subst ctx) | none => none) (KeyRef.substL ctx g)
      (match hv with | some e => some (e.subst ctx) | none => none) (OrderKeys.substL ctx o) p l d
end

theorem subst_not_sub (ctx : Ctx) (r : Expr) (hr : ∀ q, r ≠ .sub q) : ∀ q, r.subst ctx ≠ .sub q := by
  intro q
  cases r <;> simp [Expr.subst]
  · split <;> simp
  · exact absurd rfl (hr _)

def unbound (ctx : Ctx) (np : Option String × Nat) : Bool :=
  match bindParam ctx np.1 np.2 with | .ok _ => false | .error _ => true

theorem targetName_subst (ctx : Ctx) (t : Target) : targetName (t.subst ctx) = targetName t := by
  obtain ⟨e, a, txt⟩ := t
  cases a with
  | some a => rfl
  | none =>
    cases e with
    | placeholder n p =>
      simp only [Target.subst, Expr.subst]
      cases bindParam ctx n p <;> rfl
    | _ => rfl

/-- `Select.subst` by the accessors, the optional clauses through `Option.map` (`Select.placeholders_eq`: likewise
    through `Option.elim`) -/
theorem Select.subst_eq (ctx : Ctx) (sel : Select) :
    sel.subst ctx = .mk (sel.targets.map (Target.substL ctx)) (sel.from_.subst ctx) (sel.where_.map (Expr.subst ctx))
      (KeyRef.substL ctx sel.groupBy) (sel.having.map (Expr.subst ctx)) (OrderKeys.substL ctx sel.orderBy)
      sel.pivotBy sel.limit sel.distinct := by
  obtain ⟨ts, f, w, g, hv, o, p, l, d⟩ := sel
  cases ts <;> cases w <;> cases hv <;> rfl

theorem Select.placeholders_eq (sel : Select) :
    sel.placeholders = sel.targets.elim [] Target.placeholdersL ++ sel.from_.placeholders ++
      sel.where_.elim [] Expr.placeholders ++ KeyRef.placeholdersL sel.groupBy ++
      sel.having.elim [] Expr.placeholders ++ OrderKeys.placeholdersL sel.orderBy := by
  obtain ⟨ts, f, w, g, hv, o, p, l, d⟩ := sel
  cases ts <;> cases w <;> cases hv <;> rfl

theorem selectList_subst (ctx : Ctx) (tbl : TableDef) (ts : Option (List Target)) :
    selectList tbl (ts.map (Target.substL ctx)) = Target.substL ctx (selectList tbl ts) ∧
    Target.placeholdersL (selectList tbl ts) = ts.elim [] Target.placeholdersL := by
  cases ts with
  | some ts => exact ⟨rfl, rfl⟩
  | none =>
    simp only [selectList, wildcardTargets, Option.map, Option.elim]
    induction tbl.wildcard with
    | nil => exact ⟨rfl, rfl⟩
    | cons n ns ih =>
      simp only [List.map_cons, Target.substL, Target.subst, Expr.subst, Target.placeholdersL, Target.placeholders,
        Expr.placeholders, List.nil_append]
      exact ⟨congrArg _ ih.1, ih.2⟩

/-! ### one congruence over the whole compiler

Fixed: a context `ctx` whose values are written into the statement, a context `ctx'` the rewritten statement is compiled
in, and a list `phs` of placeholders on which `ctx'` binds as `ctx` does whatever `ctx` leaves unbound.  Every stage of the
compiler then gives the same result on a piece of statement with placeholders among `phs` in `ctx` as on the rewritten piece
in `ctx'`.  `ctx' = ctx` is "literals for parameters"; `phs = []` is "without placeholders the parameters do not matter". -/
section
variable {ctx ctx' : Ctx} (tbl : TableDef) {subq subq' : Select → CM SubResult} {phs : List (Option String × Nat)}
  (ha : ∀ np ∈ phs, unbound ctx np = true → bindParam ctx' np.1 np.2 = bindParam ctx np.1 np.2)
  (hs : ∀ q, q.placeholders ⊆ phs → subq q = subq' (q.subst ctx))
include ha hs

-- the linter does not see that each theorem of a mutual block hands the section hypotheses to the other
set_option linter.unusedSectionVars false in
mutual
theorem compileExpr_lit : ∀ (e : Expr) (h : Nat), e.placeholders ⊆ phs →
    compileExpr ctx tbl subq e h = compileExpr ctx' tbl subq' (e.subst ctx) h
  | .placeholder n p, h, hp => by
    have hu := ha (n, p) (hp (List.mem_singleton_self _))
    simp only [Expr.subst, unbound] at hu ⊢
    cases hb : bindParam ctx n p with
    | ok v => simp only [compileExpr, hb]
    | error x => simp only [compileExpr, hb, hu]
  | .col _, _, _ => rfl
  | .const _, _, _ => rfl
  | .star, _, _ => rfl
  | .func f as, h, hp => by
    simp only [Expr.subst, compileExpr, compileExprs_lit as h hp]
  | .attr e n, h, hp => by
    simp only [Expr.subst, compileExpr, compileExpr_lit e h hp]
  | .subscript e k, h, hp => by
    simp only [Expr.subst, compileExpr, compileExpr_lit e h hp]
  | .unop op e, h, hp => by
    simp only [Expr.subst, compileExpr, compileExpr_lit e h hp]
  | .binop op l r, h, hp => by
    simp only [Expr.placeholders, List.append_subset] at hp
    have ihr := fun h1 => compileExpr_lit r h1 hp.2
    simp only [Expr.subst, compileExpr, compileExpr_lit l h hp.1]
    by_cases hop : (op == .in || op == .notin) = true
    · simp only [hop, if_true]
      -- IN dispatches on whether the right operand is a subquery; the rewritten placeholder is a `match` on
      -- `bindParam`, which the dispatch sees through only once that is decided
      cases r with
      | sub q => simp only [Expr.subst, hs q hp.2]
      | placeholder n pos =>
        simp only [Expr.subst] at ihr ⊢
        cases hb : bindParam ctx n pos <;> simp only [hb] at ihr ⊢ <;> simp only [ihr]
      | _ => simp only [Expr.subst] at ihr ⊢; simp only [ihr]
    · simp only [hop, ihr, Bool.false_eq_true, if_false]
  | .between a b c, h, hp => by
    simp only [Expr.placeholders, List.append_subset] at hp
    simp only [Expr.subst, compileExpr, compileExpr_lit a h hp.1.1, fun h1 => compileExpr_lit b h1 hp.1.2,
      fun h2 => compileExpr_lit c h2 hp.2]
  | .and es, h, hp => by
    simp only [Expr.subst, compileExpr, compileExprs_lit es h hp]
  | .or es, h, hp => by
    simp only [Expr.subst, compileExpr, compileExprs_lit es h hp]
  | .sub q, h, _ => by
    simp only [Expr.subst, compileExpr]
theorem compileExprs_lit : ∀ (es : List Expr) (h : Nat), Expr.placeholdersL es ⊆ phs →
    compileExprs ctx tbl subq es h = compileExprs ctx' tbl subq' (Expr.substL ctx es) h
  | [], _, _ => rfl
  | e :: es, h, hp => by
    simp only [Expr.placeholdersL, List.append_subset] at hp
    simp only [Expr.substL, compileExprs, compileExpr_lit e h hp.1, fun h1 => compileExprs_lit es h1 hp.2]
end

theorem compileTargets_lit : ∀ (ts : List Target) (h : Nat), Target.placeholdersL ts ⊆ phs →
    compileTargets ctx tbl subq ts h = compileTargets ctx' tbl subq' (Target.substL ctx ts) h
  | [], _, _ => rfl
  | t :: ts, h, hp => by
    simp only [Target.placeholdersL, List.append_subset] at hp
    have he : (t.subst ctx).expr = t.expr.subst ctx := by cases t; rfl
    have hpe : t.expr.placeholders ⊆ phs := by cases t; exact hp.1
    simp only [Target.substL, compileTargets, targetName_subst, he,
      compileExpr_lit tbl ha hs t.expr h hpe, fun h1 => compileTargets_lit ts h1 hp.2]

theorem compileKey_lit (k : KeyRef) (h : Nat) (hp : k.placeholders ⊆ phs) :
    compileKey ctx tbl subq k h = compileKey ctx' tbl subq' (k.subst ctx) h := by
  cases k with
  | idx n => rfl
  | expr e =>
    have ih := compileExpr_lit tbl ha hs e h hp
    -- `compileKey` dispatches on whether the key is a bare column; as in the IN branch, the rewritten placeholder is a
    -- `match` on `bindParam` that the dispatch sees through only once that is decided
    cases e with
    | col n => rfl
    | placeholder n p =>
      simp only [KeyRef.subst, Expr.subst] at ih ⊢
      cases hb : bindParam ctx n p <;> simp only [hb] at ih ⊢ <;> simp only [compileKey, ih]
    | _ => simp only [KeyRef.subst, Expr.subst] at ih ⊢; simp only [compileKey, ih]

theorem compileGroupKeys_lit (nvis : Nat) (visible : List CTarget) :
    ∀ (ks : List KeyRef) (ts : List CTarget) (h : Nat), KeyRef.placeholdersL ks ⊆ phs →
      compileGroupKeys ctx tbl subq nvis visible ks ts h =
        compileGroupKeys ctx' tbl subq' nvis visible (KeyRef.substL ctx ks) ts h
  | [], _, _, _ => rfl
  | k :: ks, ts, h, hp => by
    simp only [KeyRef.placeholdersL, List.append_subset] at hp
    simp only [KeyRef.substL, compileGroupKeys, compileKey_lit tbl ha hs k h hp.1,
      fun ts' h1 => compileGroupKeys_lit nvis visible ks ts' h1 hp.2]

theorem compileOrderKeys_lit (nt : Nat) (named : List CTarget) :
    ∀ (ks : List (KeyRef × Bool)) (ts : List CTarget) (h : Nat), OrderKeys.placeholdersL ks ⊆ phs →
      compileOrderKeys ctx tbl subq nt named ks ts h =
        compileOrderKeys ctx' tbl subq' nt named (OrderKeys.substL ctx ks) ts h
  | [], _, _, _ => rfl
  | (k, d) :: ks, ts, h, hp => by
    simp only [OrderKeys.placeholdersL, List.append_subset] at hp
    simp only [OrderKeys.substL, compileOrderKeys, compileKey_lit tbl ha hs k h hp.1,
      fun ts' h1 => compileOrderKeys_lit nt named ks ts' h1 hp.2]

theorem compileOpt_lit {h : Nat} {e : Option Expr} (hp : e.elim [] Expr.placeholders ⊆ phs) :
    compileOpt ctx tbl subq h e = compileOpt ctx' tbl subq' h (e.map (Expr.subst ctx)) := by
  cases e with
  | none => rfl
  | some e => simp only [Option.map, compileOpt, compileExpr_lit tbl ha hs e h hp]

theorem compileFrom_lit (hdb : ctx.db = ctx'.db) {sub sub' : Select → CM Compiled}
    (hsub : ∀ q, q.placeholders ⊆ phs → sub q = sub' (q.subst ctx)) :
    ∀ f : FromC, f.placeholders ⊆ phs → compileFrom ctx sub subq tbl f = compileFrom ctx' sub' subq' tbl (f.subst ctx)
  | .none, _ => rfl
  | .table n, _ => by simp only [FromC.subst, compileFrom, hdb]
  | .sub q, hp => by simp only [FromC.subst, compileFrom, hsub q hp]
  | .from none o c cl, _ => rfl
  | .from (some e) o c cl, hp => by
    simp only [FromC.placeholders] at hp
    simp only [FromC.subst, compileFrom, compileOpt, compileExpr_lit tbl ha hs e 0 hp]

theorem compileGroup_lit {cts : List CTarget} {g : List KeyRef} {hv : Option Expr} {h2 : Nat}
    (hg : KeyRef.placeholdersL g ⊆ phs) (hhv : hv.elim [] Expr.placeholders ⊆ phs) :
    compileGroup ctx tbl subq cts g hv h2 =
      compileGroup ctx' tbl subq' cts (KeyRef.substL ctx g) (hv.map (Expr.subst ctx)) h2 := by
  have hge : (KeyRef.substL ctx g).isEmpty = g.isEmpty := by cases g <;> rfl
  simp only [compileGroup, hge, compileGroupKeys_lit tbl ha hs _ _ g _ _ hg]
  cases hv with
  | none => rfl
  | some e => simp only [Option.map, fun h3 => compileExpr_lit tbl ha hs e h3 hhv]

theorem compileOrder_lit {ts1 : List CTarget} {o : List (KeyRef × Bool)} {h5 : Nat} (ho : OrderKeys.placeholdersL o ⊆ phs) :
    compileOrder ctx tbl subq ts1 o h5 = compileOrder ctx' tbl subq' ts1 (OrderKeys.substL ctx o) h5 := by
  have hoe : (OrderKeys.substL ctx o).isEmpty = o.isEmpty := by rcases o with _ | ⟨⟨_, _⟩, _⟩ <;> rfl
  simp only [compileOrder, hoe, compileOrderKeys_lit tbl ha hs _ _ o _ _ ho]

theorem compileClauses_lit (sel : Select) (hp : sel.placeholders ⊆ phs) (cfrom : Option CExpr) (h0 : Nat) :
    compileClauses ctx tbl subq sel cfrom h0 = compileClauses ctx' tbl subq' (sel.subst ctx) cfrom h0 := by
  rw [Select.placeholders_eq] at hp
  obtain ⟨ts, f, w, g, hv, o, p, l, d⟩ := sel
  simp only [Select.targets, Select.where_, Select.groupBy, Select.having, Select.orderBy, List.append_subset,
    ← (selectList_subst ctx tbl ts).2] at hp
  obtain ⟨⟨⟨⟨⟨h1, _⟩, h3⟩, h4⟩, h5⟩, h6⟩ := hp
  simp only [compileClauses, Select.subst_eq, Select.targets, Select.where_, Select.groupBy, Select.having, Select.orderBy,
    Select.pivotBy, Select.limit, Select.distinct, (selectList_subst ctx tbl ts).1,
    compileTargets_lit tbl ha hs _ _ h1, compileOpt_lit tbl ha hs h3,
    compileGroup_lit tbl ha hs h4 h5, compileOrder_lit tbl ha hs h6,
    finishSelect]

end

/-- **Writing the values that `ctx` binds into the statement as literals does not change what it compiles to**, in any
    context `ctx'` over the same tables that binds the placeholders `ctx` leaves unbound as `ctx` does. -/
theorem compileSelect_lit (ctx ctx' : Ctx) (hdb : ctx.db = ctx'.db) (phs : List (Option String × Nat))
    (ha : ∀ np ∈ phs, unbound ctx np = true → bindParam ctx' np.1 np.2 = bindParam ctx np.1 np.2) :
    ∀ (fuel : Nat) (tbl : TableDef) (sel : Select), sel.placeholders ⊆ phs →
      compileSelect ctx fuel tbl sel = compileSelect ctx' fuel tbl (sel.subst ctx)
  | 0, _, _, _ => rfl
  | fuel + 1, outer, sel, hp => by
    have ih := compileSelect_lit ctx ctx' hdb phs ha fuel
    have hs : ∀ tbl q, q.placeholders ⊆ phs → subqFor ctx fuel tbl q = subqFor ctx' fuel tbl (q.subst ctx) :=
      fun tbl q hq => congrArg subqOf (ih tbl q hq)
    have hf : sel.from_.placeholders ⊆ phs := by
      rw [Select.placeholders_eq] at hp
      simp only [List.append_subset] at hp
      exact hp.1.1.1.1.2
    have hsf : (sel.subst ctx).from_ = sel.from_.subst ctx := by rw [Select.subst_eq]; rfl
    simp only [compileSelect_succ, hsf, compileFrom_lit outer ha (hs outer) hdb (ih outer) _ hf,
      fun tbl => compileClauses_lit tbl ha (hs tbl) sel hp]

mutual
theorem Expr.placeholders_subst (ctx : Ctx) : ∀ e : Expr, (e.subst ctx).placeholders = e.placeholders.filter (unbound ctx)
  | .placeholder n p =>
    match h : bindParam ctx n p with
    | .ok v => by simp [Expr.subst, h, unbound, Expr.placeholders]
    | .error x => by simp [Expr.subst, h, unbound, Expr.placeholders]
  | .col _ => rfl
  | .const _ => rfl
  | .star => rfl
  | .func f as => by simp only [Expr.subst, Expr.placeholders, Expr.placeholdersL_subst ctx as]
  | .attr e _ => by simp only [Expr.subst, Expr.placeholders, Expr.placeholders_subst ctx e]
  | .subscript e _ => by simp only [Expr.subst, Expr.placeholders, Expr.placeholders_subst ctx e]
  | .unop _ e => by simp only [Expr.subst, Expr.placeholders, Expr.placeholders_subst ctx e]
  | .binop _ l r => by
    simp only [Expr.subst, Expr.placeholders, Expr.placeholders_subst ctx l, Expr.placeholders_subst ctx r, List.filter_append]
  | .between a b c => by
    simp only [Expr.subst, Expr.placeholders, Expr.placeholders_subst ctx a, Expr.placeholders_subst ctx b,
      Expr.placeholders_subst ctx c, List.filter_append]
  | .and es => by simp only [Expr.subst, Expr.placeholders, Expr.placeholdersL_subst ctx es]
  | .or es => by simp only [Expr.subst, Expr.placeholders, Expr.placeholdersL_subst ctx es]
  | .sub q => by simp only [Expr.subst, Expr.placeholders, Select.placeholders_subst ctx q]
theorem Expr.placeholdersL_subst (ctx : Ctx) : ∀ es : List Expr,
    Expr.placeholdersL (Expr.substL ctx es) = (Expr.placeholdersL es).filter (unbound ctx)
  | [] => rfl
  | e :: es => by
    simp only [Expr.substL, Expr.placeholdersL, Expr.placeholders_subst ctx e, Expr.placeholdersL_subst ctx es, List.filter_append]
theorem Target.placeholders_subst (ctx : Ctx) : ∀ t : Target, (t.subst ctx).placeholders = t.placeholders.filter (unbound ctx)
  | .mk e _ _ => by simp only [Target.subst, Target.placeholders, Expr.placeholders_subst ctx e]
theorem Target.placeholdersL_subst (ctx : Ctx) : ∀ ts : List Target,
    Target.placeholdersL (Target.substL ctx ts) = (Target.placeholdersL ts).filter (unbound ctx)
  | [] => rfl
  | t :: ts => by
    simp only [Target.substL, Target.placeholdersL, Target.placeholders_subst ctx t, Target.placeholdersL_subst ctx ts, List.filter_append]
theorem KeyRef.placeholders_subst (ctx : Ctx) : ∀ k : KeyRef, (k.subst ctx).placeholders = k.placeholders.filter (unbound ctx)
  | .idx _ => rfl
  | .expr e => by simp only [KeyRef.subst, KeyRef.placeholders, Expr.placeholders_subst ctx e]
theorem KeyRef.placeholdersL_subst (ctx : Ctx) : ∀ ks : List KeyRef,
    KeyRef.placeholdersL (KeyRef.substL ctx ks) = (KeyRef.placeholdersL ks).filter (unbound ctx)
  | [] => rfl
  | k :: ks => by
    simp only [KeyRef.substL, KeyRef.placeholdersL, KeyRef.placeholders_subst ctx k, KeyRef.placeholdersL_subst ctx ks, List.filter_append]
theorem OrderKeys.placeholdersL_subst (ctx : Ctx) : ∀ ks : List (KeyRef × Bool),
    OrderKeys.placeholdersL (OrderKeys.substL ctx ks) = (OrderKeys.placeholdersL ks).filter (unbound ctx)
  | [] => rfl
  | (k, _) :: ks => by
    simp only [OrderKeys.substL, OrderKeys.placeholdersL, KeyRef.placeholders_subst ctx k, OrderKeys.placeholdersL_subst ctx ks, List.filter_append]
theorem FromC.placeholders_subst (ctx : Ctx) : ∀ f : FromC, (f.subst ctx).placeholders = f.placeholders.filter (unbound ctx)
  | .none => rfl
  | .table _ => rfl
  | .sub q => by simp only [FromC.subst, FromC.placeholders, Select.placeholders_subst ctx q]
  | .from (some e) _ _ _ => by simp only [FromC.subst, FromC.placeholders, Expr.placeholders_subst ctx e]
  | .from none _ _ _ => rfl
theorem Select.placeholders_subst (ctx : Ctx) : ∀ s : Select, (s.subst ctx).placeholders = s.placeholders.filter (unbound ctx)
  | .mk ts f w g hv o _ _ _ => by
    cases ts <;> cases w <;> cases hv <;>
      simp only [Select.subst, Select.placeholders, FromC.placeholders_subst ctx f, KeyRef.placeholdersL_subst ctx g,
        OrderKeys.placeholdersL_subst ctx o, List.filter_append, Target.placeholdersL_subst, Expr.placeholders_subst,
        List.filter_nil]
end

mutual
theorem Expr.subst_closed (ctx : Ctx) : ∀ e : Expr, e.placeholders = [] → e.subst ctx = e
  | .placeholder _ _, h => by simp [Expr.placeholders] at h
  | .col _, _ => rfl
  | .const _, _ => rfl
  | .star, _ => rfl
  | .func f as, h => by simp only [Expr.subst, Expr.substL_closed ctx as h]
  | .attr e _, h => by simp only [Expr.subst, Expr.subst_closed ctx e h]
  | .subscript e _, h => by simp only [Expr.subst, Expr.subst_closed ctx e h]
  | .unop _ e, h => by simp only [Expr.subst, Expr.subst_closed ctx e h]
  | .binop _ l r, h => by
    simp only [Expr.placeholders, List.append_eq_nil_iff] at h
    simp only [Expr.subst, Expr.subst_closed ctx l h.1, Expr.subst_closed ctx r h.2]
  | .between a b c, h => by
    simp only [Expr.placeholders, List.append_eq_nil_iff] at h
    simp only [Expr.subst, Expr.subst_closed ctx a h.1.1, Expr.subst_closed ctx b h.1.2, Expr.subst_closed ctx c h.2]
  | .and es, h => by simp only [Expr.subst, Expr.substL_closed ctx es h]
  | .or es, h => by simp only [Expr.subst, Expr.substL_closed ctx es h]
  | .sub q, h => by simp only [Expr.subst, Select.subst_closed ctx q h]
theorem Expr.substL_closed (ctx : Ctx) : ∀ es : List Expr, Expr.placeholdersL es = [] → Expr.substL ctx es = es
  | [], _ => rfl
  | e :: es, h => by
    simp only [Expr.placeholdersL, List.append_eq_nil_iff] at h
    simp only [Expr.substL, Expr.subst_closed ctx e h.1, Expr.substL_closed ctx es h.2]
theorem Target.substL_closed (ctx : Ctx) : ∀ ts : List Target, Target.placeholdersL ts = [] → Target.substL ctx ts = ts
  | [], _ => rfl
  | .mk e _ _ :: ts, h => by
    simp only [Target.placeholdersL, Target.placeholders, List.append_eq_nil_iff] at h
    simp only [Target.substL, Target.subst, Expr.subst_closed ctx e h.1, Target.substL_closed ctx ts h.2]
theorem KeyRef.subst_closed (ctx : Ctx) : ∀ k : KeyRef, k.placeholders = [] → k.subst ctx = k
  | .idx _, _ => rfl
  | .expr e, h => by simp only [KeyRef.subst, Expr.subst_closed ctx e h]
theorem KeyRef.substL_closed (ctx : Ctx) : ∀ ks : List KeyRef, KeyRef.placeholdersL ks = [] → KeyRef.substL ctx ks = ks
  | [], _ => rfl
  | k :: ks, h => by
    simp only [KeyRef.placeholdersL, List.append_eq_nil_iff] at h
    simp only [KeyRef.substL, KeyRef.subst_closed ctx k h.1, KeyRef.substL_closed ctx ks h.2]
theorem OrderKeys.substL_closed (ctx : Ctx) : ∀ ks : List (KeyRef × Bool),
    OrderKeys.placeholdersL ks = [] → OrderKeys.substL ctx ks = ks
  | [], _ => rfl
  | (k, _) :: ks, h => by
    simp only [OrderKeys.placeholdersL, List.append_eq_nil_iff] at h
    simp only [OrderKeys.substL, KeyRef.subst_closed ctx k h.1, OrderKeys.substL_closed ctx ks h.2]
theorem FromC.subst_closed (ctx : Ctx) : ∀ f : FromC, f.placeholders = [] → f.subst ctx = f
  | .none, _ => rfl
  | .table _, _ => rfl
  | .sub q, h => by simp only [FromC.subst, Select.subst_closed ctx q h]
  | .from none _ _ _, _ => rfl
  | .from (some e) _ _ _, h => by simp only [FromC.subst, Expr.subst_closed ctx e h]
theorem Select.subst_closed (ctx : Ctx) : ∀ s : Select, s.placeholders = [] → s.subst ctx = s
  | .mk ts f w g hv o _ _ _, h => by
    cases ts <;> cases w <;> cases hv <;> simp only [Select.placeholders, List.append_eq_nil_iff] at h <;>
      simp only [Select.subst, FromC.subst_closed ctx f, KeyRef.substL_closed ctx g, OrderKeys.substL_closed ctx o,
        Target.substL_closed, Expr.subst_closed, h]
end

theorem compileExprs_subst (ctx : Ctx) (tbl : TableDef) (subq : Select → CM SubResult)
    (hs : ∀ q, subq (q.subst ctx) = subq q) :
    ∀ (es : List Expr) (h : Nat), compileExprs ctx tbl subq (Expr.substL ctx es) h = compileExprs ctx tbl subq es h :=
  fun es h => (compileExprs_lit tbl (fun _ _ _ => rfl) (fun q _ => (hs q).symm) es h (List.Subset.refl _)).symm

theorem compileExprs_ctx (ctx ctx' : Ctx) (tbl : TableDef) (subq subq' : Select → CM SubResult)
    (hs : ∀ q, q.placeholders = [] → subq q = subq' q) :
    ∀ (es : List Expr) (h : Nat), Expr.placeholdersL es = [] → compileExprs ctx tbl subq es h = compileExprs ctx' tbl subq' es h := by
  intro es h hp
  have := compileExprs_lit (ctx := ctx) (ctx' := ctx') (subq := subq) (subq' := subq') (phs := []) tbl nofun
    (fun q hq => by rw [Select.subst_closed ctx q (List.subset_nil.mp hq)]; exact hs q (List.subset_nil.mp hq))
    es h (List.subset_nil.mpr hp)
  rwa [Expr.substL_closed ctx es hp] at this

/-- the context `compileStmt` builds -/
def stmtCtx (db : List TableDef) (params : Params) (sel : Select) : Ctx :=
  { db := db, params := params,
    positional := sortNat ((sel.placeholders.filter (fun p => p.1.isNone)).map (·.2)) }

theorem compileStmt_ok {db : List TableDef} {params : Params} {sel : Select}
    (hok : checkParams sel.placeholders params = .ok ()) :
    compileStmt db params sel = compileSelect (stmtCtx db params sel) 64 (defaultTable db) sel := by
  simp only [compileStmt, hok, stmtCtx]

theorem checkParams_bound (db : List TableDef) (params : Params) (sel : Select)
    (hok : checkParams sel.placeholders params = .ok ()) :
    ∀ np ∈ sel.placeholders, unbound (stmtCtx db params sel) np = false := by
  intro np hnp
  suffices h : ∃ v, bindParam (stmtCtx db params sel) np.1 np.2 = .ok v by
    obtain ⟨v, hv⟩ := h
    simp only [unbound, hv]
  rcases checkParams_ok hok with h | ⟨kvs, rfl, h⟩ | ⟨vs, rfl, hlen, h⟩
  · exact absurd h (List.ne_nil_of_mem hnp)
  · -- every placeholder is named, by a key of the mapping
    obtain ⟨n, hn, hk⟩ := h np hnp
    exact hn ▸ bindParam_named rfl n np.2 hk
  · -- every placeholder is positional, its position is among the sorted positions, and these are as many as the values
    have hmem : np.2 ∈ (stmtCtx db (.seq vs) sel).positional :=
      (sortNat_perm _).mem_iff.mpr (List.mem_map.mpr ⟨np, List.mem_filter.mpr ⟨hnp, by simp only [h np hnp]; rfl⟩, rfl⟩)
    have hl : (stmtCtx db (.seq vs) sel).positional.length ≤ vs.length := by
      rw [stmtCtx, (sortNat_perm _).length_eq, List.length_map, hlen]
      exact List.length_filter_le _ _
    exact h np hnp ▸ bindParam_positional rfl np.2 hmem hl

end Bql
