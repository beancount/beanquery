/-
  How the token sequence of a well-formed layered operand starts (used to resolve the parser's
  ordered choices): the first token can start an operand, and a leading literal is never directly
  followed by a comma (so a parenthesised expression is not mistaken for a list literal).  Both are
  properties of the printed tokens alone and survive appending anything that does not start with a comma.
-/
import BqlVerif.Model.LayeredWF
import BqlVerif.Proofs.ParserBase
set_option autoImplicit false
namespace Bql.Syn

def startOK : Tok → Bool
  | .sym .lparen | .sym .minus | .sym .plus => true
  | .word w => !isKeyword w || w == "true" || w == "false"
  | .int _ | .dec _ _ _ | .date _ _ _ | .str _ | .ph | .phOpen => true
  | _ => false

def headOK : List Tok → Bool
  | t :: _ => startOK t
  | [] => false

def noLitComma : List Tok → Bool
  | t :: .sym .comma :: _ => !isLitTok t
  | _ => true

def GoodStart (ts : List Tok) : Prop := headOK ts = true ∧ noLitComma ts = true

/-- an inversion (hence a conjunction, an expression) may also start with NOT -/
def headOKE : List Tok → Bool
  | t :: _ => startOK t || isW "not" t
  | [] => false

def GoodStartE (ts : List Tok) : Prop := headOKE ts = true ∧ noLitComma ts = true

def NoComma (ts : List Tok) : Prop := ts.head? ≠ some (.sym .comma)

/-- start of a printed primary: what `factorAct` sends to `parsePrimary` -/
def primStart : List Tok → Bool
  | .word w :: _ => !isKeyword w || w == "true" || w == "false"
  | .int _ :: _ | .dec _ _ _ :: _ | .date _ _ _ :: _ | .str _ :: _ | .ph :: _ | .phOpen :: _ => true
  | .sym .lparen :: t :: .sym .comma :: _ => isLitTok t
  | _ => false

@[simp] theorem noComma_cons (t : Tok) (r : List Tok) : NoComma (t :: r) ↔ t ≠ .sym .comma := by
  simp [NoComma]

@[simp] theorem noComma_nil : NoComma [] := by simp [NoComma]

theorem noLitComma_cons (t : Tok) (ts : List Tok) : noLitComma (t :: ts) = true ↔ (isLitTok t = true → NoComma ts) := by
  cases ts with
  | nil => simp [noLitComma]
  | cons u r =>
    cases u with
    | sym s => cases s <;> simp [noLitComma]
    | _ => simp [noLitComma]

theorem noLitComma_nonlit (t : Tok) (ts : List Tok) (h : isLitTok t = false) : noLitComma (t :: ts) = true :=
  (noLitComma_cons t ts).2 (by simp [h])

theorem headOK_head {ts : List Tok} (h : headOK ts = true) : ∀ t ∈ ts.head?, startOK t = true := by
  cases ts with
  | nil => cases h
  | cons t r => simpa [headOK] using h

theorem headOKE_head {ts : List Tok} (h : headOKE ts = true) : ∀ t ∈ ts.head?, (startOK t || isW "not" t) = true := by
  cases ts with
  | nil => cases h
  | cons t r => simpa [headOKE] using h

theorem headOK_append {x : List Tok} (rest : List Tok) (h : headOK x = true) : headOK (x ++ rest) = true := by
  cases x with
  | nil => cases h
  | cons t r => exact h

theorem headOKE_append {x : List Tok} (rest : List Tok) (h : headOKE x = true) : headOKE (x ++ rest) = true := by
  cases x with
  | nil => cases h
  | cons t r => exact h

theorem noLitComma_append (t : Tok) (tl rest : List Tok) (h : noLitComma (t :: tl) = true) (hr : NoComma rest) :
    noLitComma (t :: tl ++ rest) = true := by
  rw [List.cons_append, noLitComma_cons] at *
  intro ht
  cases tl with
  | nil => exact hr
  | cons u r => exact h ht

theorem GoodStart.append {x : List Tok} (h : GoodStart x) {rest : List Tok} (hr : NoComma rest) : GoodStart (x ++ rest) := by
  cases x with
  | nil => exact absurd h.1 (by simp [headOK])
  | cons t tl => exact ⟨h.1, noLitComma_append t tl rest h.2 hr⟩

theorem GoodStartE.append {x : List Tok} (h : GoodStartE x) {rest : List Tok} (hr : NoComma rest) : GoodStartE (x ++ rest) := by
  cases x with
  | nil => exact absurd h.1 (by simp [headOKE])
  | cons t tl => exact ⟨h.1, noLitComma_append t tl rest h.2 hr⟩

theorem GoodStart.toE {ts : List Tok} (h : GoodStart ts) : GoodStartE ts := by
  cases ts with
  | nil => exact absurd h.1 (by simp [headOK])
  | cons t r => exact ⟨by have := h.1; simp only [headOK] at this; simp [headOKE, this], h.2⟩

theorem good_of_primStart_head (ts : List Tok) (h : GoodStart ts) : headOK ts = true := h.1

theorem lit_tok_startOK (l : Lit) : startOK l.tok = true := by
  cases l with
  | bool b => cases b <;> decide
  | null => decide
  | _ => rfl

theorem lit_tok_isLit (l : Lit) : isLitTok l.tok = true := by
  cases l with
  | bool b => cases b <;> decide
  | null => decide
  | _ => rfl

theorem lit_tok_primStart (l : Lit) (rest : List Tok) : primStart (l.tok :: rest) = true := by
  cases l with
  | bool b => cases b <;> simp [Lit.tok, primStart]
  | null => simp [Lit.tok, primStart, isKeyword, keywords]
  | _ => rfl

theorem kw_of_ident {n : String} (h : identOK n = true) : isKeyword n = false := by
  simpa [identOK] using h

theorem col_ident (n : String) (h : colOK n = true) : identOK n = true := by
  simp only [colOK, Bool.and_eq_true] at h
  exact h.1

theorem good_ident (n : String) (h : identOK n = true) (r : List Tok) (hr : NoComma r) :
    GoodStart (.word n :: r) ∧ primStart (.word n :: r) = true := by
  simp only [identOK] at h
  exact ⟨⟨by simp [headOK, startOK, h], (noLitComma_cons _ _).2 fun _ => hr⟩, by simp [primStart, h]⟩

theorem good_atom (a : LAtom) (h : wfAtom a) : GoodStart (printAtom a) ∧ primStart (printAtom a) = true := by
  cases a with
  | col n => exact good_ident n (col_ident n h) [] noComma_nil
  | lit l => exact ⟨⟨lit_tok_startOK l, rfl⟩, lit_tok_primStart l []⟩
  | list first items =>
    obtain ⟨_, _, hne⟩ := h
    cases items with
    | nil => exact absurd rfl hne
    | cons x xs => exact ⟨⟨rfl, noLitComma_nonlit _ _ rfl⟩, by cases x <;> simp [printAtom, printListItems, primStart, lit_tok_isLit]⟩
  | func n args => exact good_ident n h.1 _ (by simp)
  | funcStar n => exact good_ident n h _ (by simp)
  | ph n => cases n <;> exact ⟨⟨rfl, rfl⟩, rfl⟩

theorem primStart_append {x : List Tok} (rest : List Tok) (h : primStart x = true) : primStart (x ++ rest) = true := by
  unfold primStart at h
  split at h
  all_goals first | exact h | cases h

theorem good_prim : (p : LPrim) → wfPrim p → GoodStart (printPrim p) ∧ primStart (printPrim p) = true
  | .atom a, h => good_atom a h
  | .attr p n, h => ⟨(good_prim p h.1).1.append (by simp), primStart_append _ (good_prim p h.1).2⟩
  | .sub p k, h => ⟨(good_prim p h).1.append (by simp), primStart_append _ (good_prim p h).2⟩

theorem good_factor (f : LFactor) (h : wfFactor f) : GoodStart (printFactor f) := by
  cases f with
  | prim p => exact (good_prim p h).1
  | _ => exact ⟨rfl, noLitComma_nonlit _ _ rfl⟩

theorem good_term : (t : LTerm) → wfTerm t → GoodStart (printTerm t)
  | .factor f, h => good_factor f h
  | .bin op t f, h => (good_term t h.1).append (by cases op <;> simp [TermOp.tok])

theorem good_sum : (s : LSum) → wfSum s → GoodStart (printSum s)
  | .term t, h => good_term t h
  | .bin op s t, h => (good_sum s h.1).append (by cases op <;> simp [SumOp.tok])

theorem good_cmp (c : LCmp) (h : wfCmp c) : GoodStart (printCmp c) := by
  cases c with
  | sum s => exact good_sum s h
  | bin op l r =>
    rw [printCmp, List.append_assoc]
    exact (good_sum l h.1).append (by cases op <;> simp [CmpOp.toks])
  | isnull s => exact (good_sum s h).append (by simp)
  | isnotnull s => exact (good_sum s h).append (by simp)
  | between s lo hi => exact (good_sum s h.1).append (by simp)

theorem good_inv (i : LInv) (h : wfInv i) : GoodStartE (printInv i) := by
  cases i with
  | not j => exact ⟨by simp [printInv, headOKE, isW], noLitComma_nonlit _ _ (by decide)⟩
  | cmp c => exact (good_cmp c h).toE

theorem good_conj (c : LConj) (h : wfConj c) : GoodStartE (printConj c) := by
  cases c with
  | mk hd tl => exact (good_inv hd h.1).append (by cases tl <;> simp [printAndTail])

theorem good_expr (e : LExpr) (h : wfExpr e) : GoodStartE (printExpr e) := by
  cases e with
  | mk hd tl => exact (good_conj hd h.1).append (by cases tl <;> simp [printOrTail])

theorem expr_head (e : LExpr) (h : wfExpr e) (rest : List Tok) : headOKE (printExpr e ++ rest) = true :=
  headOKE_append rest (good_expr e h).1

theorem printExpr_ne_nil (e : LExpr) (h : wfExpr e) : printExpr e ≠ [] := by
  intro h0
  have := (good_expr e h).1
  simp [h0, headOKE] at this

end Bql.Syn
