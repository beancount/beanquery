/-
  Lemmas for C04.  `Conf t r`: the outcome `r` of an evaluation is a value of type `t` or a benign exception; how it
  passes through the evaluator's operand-first nodes (`Conf.bind`, `conf_ite`) and through AND / OR / COALESCE.  What a
  non-NULL value of a scalar type looks like (`Shape`), and its comparable class.  `wellTyped` (the typing of compiled
  expressions the preservation theorem is about) and `rowConforms`.
-/
import BqlVerif.Model.Typing
import BqlVerif.Model.Exec
set_option autoImplicit false
namespace Bql.C04

def Conf (t : Ty) (r : PyResult) : Prop :=
  match r with
  | .ok v => v.hasTy t = true
  | .error x => benignError x = true

theorem dateRes_sound (o : Option Date) : Conf .date (dateRes o) := by
  cases o <;> rfl

theorem conf_ite {c : Prop} [Decidable c] {t : Ty} {r s : PyResult} (hr : c → Conf t r) (hs : ¬c → Conf t s) :
    Conf t (if c then r else s) := by
  split
  · exact hr ‹_›
  · exact hs ‹_›

/-- a NULL operand makes the node NULL, and NULL conforms to every type -/
theorem conf_strict {t : Ty} {a : Value} {r : PyResult} (h : a.isNull = false → Conf t r) :
    Conf t (if a.isNull then .ok .null else r) :=
  conf_ite (fun _ => rfl) fun hn => h (Bool.eq_false_iff.mpr hn)

/-- an operand is evaluated first: its exception (benign, by `hr`) propagates, its value goes on -/
theorem Conf.bind {t ta : Ty} {r : PyResult} {k : Value → PyResult} (hr : Conf ta r)
    (hk : ∀ a, a.hasTy ta = true → Conf t (k a)) :
    Conf t (match r with | .error x => .error x | .ok a => k a) := by
  cases r with
  | error x => exact hr
  | ok a => exact hk a hr

def ConfL (env : AggEnv) (row : Row) : List CExpr → Prop
  | [] => True
  | e :: es => Conf e.ty (eval env row e) ∧ ConfL env row es

theorem evalAnd_conf (env : AggEnv) (row : Row) : ∀ es : List CExpr, ConfL env row es → Conf .bool (evalAnd env row es)
  | [], _ => rfl
  | e :: es, h => by
    simp only [evalAnd]
    exact .bind h.1 fun v _ => conf_strict fun _ => conf_ite (fun _ => rfl) fun _ => evalAnd_conf env row es h.2

theorem evalOr_conf (env : AggEnv) (row : Row) : ∀ (es : List CExpr) (r : Value), r.hasTy .bool = true →
    ConfL env row es → Conf .bool (evalOr env row r es)
  | [], _, hr, _ => hr
  | e :: es, r, hr, h => by
    simp only [evalOr]
    exact .bind h.1 fun v _ => conf_ite (fun _ => rfl) fun _ => evalOr_conf env row es _ (by split; rfl; exact hr) h.2

theorem evalCoalesce_conf (env : AggEnv) (row : Row) (t : Ty) : ∀ es : List CExpr, es.all (fun x => x.ty == t) = true →
    ConfL env row es → Conf t (evalCoalesce env row es)
  | [], _, _ => rfl
  | e :: es, hs, h => by
    simp only [List.all_cons, Bool.and_eq_true, beq_iff_eq] at hs
    simp only [evalCoalesce]
    exact .bind h.1 fun v hv => conf_ite (fun _ => evalCoalesce_conf env row t es hs.2 h.2) fun _ => hs.1 ▸ hv

/-- the constructor of a non-NULL value conforming to a scalar type the engine model computes with -/
def Shape (t : Ty) (a : Value) : Prop :=
  match t with
  | .int => ∃ i, a = .int i
  | .dec => ∃ d, a = .dec d
  | .str => ∃ s, a = .str s
  | .date => ∃ d, a = .date d
  | .bool => ∃ b, a = .bool b
  | .interval => ∃ p : Int × Int × Int, a = .interval p.1 p.2.1 p.2.2
  | _ => True

theorem shape_of_hasTy (a : Value) (t : Ty) (h : a.hasTy t = true) (hn : a.isNull = false) : Shape t a := by
  cases t
  case int | dec | str | date | bool | interval => cases a <;> simp [Shape, Value.hasTy, Value.isNull] at h hn ⊢
  all_goals trivial

/-- what the three comparable classes of sort keys hold: numbers (int, bool, decimal), strings, dates -/
theorem classRank_shape (v : Value) :
    (classRank v = 1 → ∃ d, sortKey v = .num d) ∧ (classRank v = 2 → ∃ s, v = .str s) ∧
    (classRank v = 3 → ∃ d, v = .date d) := by
  cases v <;> simp [classRank, sortKey, SortKey.rank]

theorem pyLt?_num {a b : Value} {x y : Dec} (ha : sortKey a = .num x) (hb : sortKey b = .num y) :
    pyLt? a b = some (Dec.lt x y) := by
  cases a <;> cases ha <;> cases b <;> cases hb <;> rfl

theorem pyLt?_comparable (a b : Value) (cls : Nat) (ha : classRank a = cls) (hb : classRank b = cls)
    (hc : 1 ≤ cls ∧ cls ≤ 3) : ∃ r, pyLt? a b = some r := by
  obtain rfl | rfl | rfl : cls = 1 ∨ cls = 2 ∨ cls = 3 := by omega
  · obtain ⟨x, hx⟩ := (classRank_shape a).1 ha
    obtain ⟨y, hy⟩ := (classRank_shape b).1 hb
    exact ⟨_, pyLt?_num hx hy⟩
  · obtain ⟨s, rfl⟩ := (classRank_shape a).2.1 ha
    obtain ⟨t, rfl⟩ := (classRank_shape b).2.1 hb
    exact ⟨_, rfl⟩
  · obtain ⟨s, rfl⟩ := (classRank_shape a).2.2 ha
    obtain ⟨t, rfl⟩ := (classRank_shape b).2.2 hb
    exact ⟨_, rfl⟩

theorem classRank_num (a : Value) (t : Ty) (h : a.hasTy t = true) (hn : a.isNull = false) (ht : isNumTy t = true) :
    classRank a = 1 := by
  obtain rfl | rfl : t = .int ∨ t = .dec := by simpa [isNumTy] using ht
  all_goals obtain ⟨x, rfl⟩ := shape_of_hasTy a _ h hn; rfl

theorem classRank_str (a : Value) (h : a.hasTy .str = true) (hn : a.isNull = false) : classRank a = 2 := by
  obtain ⟨x, rfl⟩ := shape_of_hasTy a _ h hn; rfl

theorem classRank_date (a : Value) (h : a.hasTy .date = true) (hn : a.isNull = false) : classRank a = 3 := by
  obtain ⟨x, rfl⟩ := shape_of_hasTy a _ h hn; rfl

/-- BETWEEN on operands of one comparable class returns a bool -/
theorem semBetween_comparable (x lo hi : Value) (cls : Nat)
    (hx : classRank x = cls) (hlo : classRank lo = cls) (hhi : classRank hi = cls) (hc : 1 ≤ cls ∧ cls ≤ 3) :
    ∃ r, semBetween x lo hi = .ok (.bool r) := by
  obtain ⟨r1, h1⟩ := pyLt?_comparable x lo cls hx hlo hc
  obtain ⟨r2, h2⟩ := pyLt?_comparable hi x cls hhi hx hc
  exact ⟨!r1 && !r2, by simp only [semBetween, h1, h2]⟩

/-! ### well-typed compiled expressions over conforming rows -/

/-- the operand types BETWEEN is declared for -/
def betweenTys (a b c : Ty) : Bool :=
  (isNumTy a && isNumTy b && isNumTy c) || (a == .date && b == .date && c == .date) || (a == .str && b == .str && c == .str)

mutual
def wellTyped : CExpr → Bool
  | .const v ty => v.hasTy ty
  | .col _ _ _ => true
  | .unop op s e ty => wellTyped e && (op != .neg || s) &&
      (semUnOutTy op e.ty == some ty || (e.ty == .obj && semUnOutTy op .obj == some ty))
  | .binop op l r ty => wellTyped l && wellTyped r && (semOutTy op l.ty r.ty == some ty)
  | .between e lo hi => wellTyped e && wellTyped lo && wellTyped hi && betweenTys e.ty lo.ty hi.ty
  | .and es => wellTypedL es
  | .or es => wellTypedL es
  | .coalesce es t => wellTypedL es && sameTyL t es
  | _ => false
def wellTypedL : List CExpr → Bool
  | [] => true
  | e :: es => wellTyped e && wellTypedL es
def sameTyL (t : Ty) : List CExpr → Bool
  | [] => true
  | e :: es => (e.ty == t) && sameTyL t es
end

mutual
def rowConforms : CExpr → Row → Prop
  | .col i _ ty, row => (row.getD i .null).hasTy ty = true
  | .unop _ _ e _, row => rowConforms e row
  | .binop _ l r _, row => rowConforms l row ∧ rowConforms r row
  | .between a b c, row => rowConforms a row ∧ rowConforms b row ∧ rowConforms c row
  | .and es, row => rowConformsL es row
  | .or es, row => rowConformsL es row
  | .coalesce es _, row => rowConformsL es row
  | _, _ => True
def rowConformsL : List CExpr → Row → Prop
  | [], _ => True
  | e :: es, row => rowConforms e row ∧ rowConformsL es row
end

theorem sameTyL_eq_all (t : Ty) : ∀ l : List CExpr, sameTyL t l = l.all (fun x => x.ty == t)
  | [] => rfl
  | x :: xs => by simp only [sameTyL, List.all_cons, sameTyL_eq_all t xs]

theorem between_sound (ta tb tc : Ty) (a b c : Value) (ht : betweenTys ta tb tc = true)
    (ha : a.hasTy ta = true) (hb : b.hasTy tb = true) (hc : c.hasTy tc = true)
    (hna : a.isNull = false) (hnb : b.isNull = false) (hnc : c.isNull = false) :
    ∃ r, semBetween a b c = .ok (.bool r) := by
  unfold betweenTys at ht
  simp only [Bool.or_eq_true, Bool.and_eq_true, beq_iff_eq] at ht
  rcases ht with (⟨⟨h1, h2⟩, h3⟩ | ⟨⟨h1, h2⟩, h3⟩) | ⟨⟨h1, h2⟩, h3⟩
  · exact semBetween_comparable a b c 1 (classRank_num a ta ha hna h1) (classRank_num b tb hb hnb h2)
      (classRank_num c tc hc hnc h3) (by omega)
  · subst h1 h2 h3
    exact semBetween_comparable a b c 3 (classRank_date a ha hna) (classRank_date b hb hnb) (classRank_date c hc hnc) (by omega)
  · subst h1 h2 h3
    exact semBetween_comparable a b c 2 (classRank_str a ha hna) (classRank_str b hb hnb) (classRank_str c hc hnc) (by omega)

theorem rowConforms_const (e : CExpr) (h : e.isConst = true) (row : Row) : rowConforms e row := by
  cases e <;> first | trivial | cases h

/-! ### the scalar types and operators the engine model evaluates -/

/-- types over which the engine model evaluates operators -/
def modelledTy (t : Ty) : Bool :=
  t == .int || t == .dec || t == .str || t == .date || t == .interval

def modelledTys : List Ty := [.int, .dec, .str, .date, .interval]
def plainOps : List BinOp := [.eq, .ne, .gt, .ge, .lt, .le, .match, .notmatch, .add, .sub, .mul, .div, .mod]

theorem mem_modelledTys {t : Ty} (h : modelledTy t = true) : t ∈ modelledTys := by
  unfold modelledTy at h
  simp only [Bool.or_eq_true, beq_iff_eq] at h
  rcases h with (((h | h) | h) | h) | h <;> subst h <;> simp [modelledTys]

theorem mem_plainOps (op : BinOp) (h1 : op ≠ .in) (h2 : op ≠ .notin) : op ∈ plainOps := by
  cases op <;> simp_all [plainOps]

theorem modelledTy_ne_obj {t : Ty} (h : modelledTy t = true) : (t == .obj) = false := by
  cases t <;> first | rfl | cases h

end Bql.C04
